import Gtree.Lemmas.VerifyAfter
import Gtree.Lemmas.VerifyExt
/-
  A forest just created by Mkdir verifies, strictly, against the resulting file system.
-/
namespace Gtree

/-- every key of the file system is a '/'-joined list of good elements (cleaned, relative) -/
def FS.Canon (fs : FS) : Prop := ∀ p, fs.lookup p ≠ none → ∃ es, GoodList es ∧ p = key es

theorem filter_not_contains {l m : List Bytes} (h : ∀ p ∈ l, p ∈ m) : l.filter (fun p => !m.contains p) = [] :=
  List.filter_eq_nil_iff.mpr fun p hp => by simp [h p hp]

section exact
variable {exts ts : List Bytes} {roots : List T} {fs fs' : FS}

theorem Exact.stat_root (hex : Exact exts ts roots fs fs') (h : Fresh exts ts roots fs) {n : Bytes} {sub : List T}
    (ht : T.mk n sub ∈ roots) :
    fs'.stat (key (ts ++ [n])) = .ok (kindOfFlag (isFileNode exts n (!sub.isEmpty))) := by
  refine stat_key (goodList_snoc h.goodQ (goodElem_of_mem h.good ht)) _ ?_ (hex.nodes _ (root_mem_pathsOf exts ts ht))
  rw [List.dropLast_concat, forall_mem_prefixKeys]
  intro i hi
  cases hl : fs.lookup (key (ts.take (i + 1))) with
  | none => exact hex.make (List.ne_nil_of_mem ht) i hi hl
  | some k =>
    cases k with
    | dir => exact hex.keep i hi _ hl
    | file m => exact absurd hl (forall_mem_prefixKeys.mp h.notFileQ i hi m)

theorem Exact.root_nodes (hex : Exact exts ts roots fs fs') (h : Fresh exts ts roots fs) {n : Bytes} {sub : List T}
    (ht : T.mk n sub ∈ roots) :
    ∀ e ∈ pathsOf exts ts [T.mk n sub], key e.1 = key (ts ++ [n]) ∨ key e.1 ∈ fs'.under (key (ts ++ [n])) := by
  intro e he
  obtain ⟨hge, tail, hshape⟩ := pathsOf_root_shape exts h.goodQ (allGoodT_of_mem roots h.good _ ht) e he
  cases tail with
  | nil => exact .inl (by rw [hshape]; rfl)
  | cons x xs =>
    have hsplit : e.1 = (ts ++ [n]) ++ x :: xs := by rw [hshape]; simp [T.name]
    rw [mem_under_iff, hex.nodes e ((mem_pathsOf_iff exts ts roots e).mpr ⟨_, ht, he⟩), hsplit]
    exact .inr ⟨by simp, (isBelow_key_iff (goodList_snoc h.goodQ (goodElem_of_mem h.good ht)) (hsplit ▸ hge)).mpr
      ⟨x :: xs, by simp, rfl⟩⟩

theorem Exact.under_root (hex : Exact exts ts roots fs fs') (h : Fresh exts ts roots fs) (hc : fs.Closed)
    (hcanon : fs.Canon) {n : Bytes} {sub : List T}
    (ht : T.mk n sub ∈ roots) {q : Bytes} (hq : q ∈ fs'.under (key (ts ++ [n]))) :
    ∃ e ∈ pathsOf exts ts [T.mk n sub], key e.1 = q := by
  obtain ⟨hts, hg, hd, _, habs⟩ := h
  have hgn := goodList_snoc hts (goodElem_of_mem hg ht)
  obtain ⟨hlq, hbelow⟩ := (mem_under_iff fs' _ q).mp hq
  by_cases hnode : ∃ e ∈ pathsOf exts ts roots, q = key e.1
  · -- a node of the forest: of this root, since sibling names differ
    obtain ⟨e, he, rfl⟩ := hnode
    obtain ⟨k, hk, hek⟩ := (mem_pathsOf_iff exts ts roots e).mp he
    obtain ⟨hge, tail, hshape⟩ := pathsOf_root_shape exts hts (allGoodT_of_mem roots hg k hk) e hek
    obtain ⟨tail', _, htl⟩ := (isBelow_key_iff hgn hge).mp hbelow
    rw [hshape, List.append_assoc] at htl
    obtain rfl := hd.name_inj k hk _ ht (List.cons.inj (List.append_cancel_left htl)).1
    exact ⟨e, hek, rfl⟩
  · -- no prefix of the target either (they are shorter), so it was there before; then, the file system being closed,
    -- so was the root
    have hpre : ∀ i < ts.length, q ≠ key (ts.take (i + 1)) := by
      rintro i hi rfl
      obtain ⟨tail', _, htl⟩ := (isBelow_key_iff hgn (goodList_take hts i)).mp hbelow
      have := ((List.prefix_append _ tail').trans (htl ▸ List.take_prefix (i + 1) ts)).length_le
      rw [List.length_append] at this
      exact Nat.not_succ_le_self _ this
    rw [hex.frame q (fun e he hqe => hnode ⟨e, he, hqe⟩) hpre] at hlq
    obtain ⟨es, hges, rfl⟩ := hcanon q hlq
    obtain ⟨tail', _, rfl⟩ := (isBelow_key_iff hgn hges).mp hbelow
    exact absurd (habs _ (root_mem_pathsOf exts ts ht))
      (hc.prefix hges hlq _ (mem_prefixKeys_of_prefix (List.prefix_append _ _) hgn.1))

theorem verifyRoot_of_exact (f : Fmt) (h : Fresh exts ts roots fs) (hc : fs.Closed) (hcanon : fs.Canon)
    (hex : Exact exts ts roots fs fs') :
    ∀ t ∈ roots, ∃ d, verifyRoot fs' (key ts) (growRoot f t) = .ok d ∧ d.missing = [] ∧ d.extra = [] := by
  rintro ⟨n, sub⟩ ht
  have hts := h.goodQ
  have hgt : AllGoodT (T.mk n sub) := allGoodT_of_mem roots h.good _ ht
  have hwant := want_growRoot f exts ts hts _ hgt
  have hhead : (growRoot f (T.mk n sub)).head? = some ⟨n, [], 1, n, !sub.isEmpty⟩ := rfl
  simp only [verifyRoot, hhead, join_root ts hts (goodElem_of_mem h.good ht), hex.stat_root h ht, hwant]
  by_cases hfile : isFileNode exts n (!sub.isEmpty) = true
  · -- the root is a regular file: only itself is wanted
    cases sub with
    | cons s ss => rw [show (!(s :: ss).isEmpty) = true from rfl, isFileNode_inner] at hfile; cases hfile
    | nil =>
      simp only [hfile, kindOfFlag, if_true]
      exact ⟨_, rfl, by simp [pathsOf], rfl⟩
  · have hff : isFileNode exts n (!sub.isEmpty) = false := by simpa using hfile
    simp only [hff, kindOfFlag, Bool.false_eq_true, if_false]
    refine ⟨_, rfl, filter_not_contains fun p hp => ?_, filter_not_contains fun q hq => List.mem_map.mpr ?_⟩
    · obtain ⟨e, he, rfl⟩ := List.mem_map.mp hp
      exact List.mem_cons.mpr (hex.root_nodes h ht e he)
    · rcases List.mem_cons.mp hq with rfl | hq
      · exact ⟨_, mem_pathsOf_cons.mpr (.inl rfl), rfl⟩
      · exact hex.under_root h hc hcanon ht hq

theorem verifyRoots_of_exact (f : Fmt) (strict : Bool) (h : Fresh exts ts roots fs) (hc : fs.Closed) (hcanon : fs.Canon)
    (hex : Exact exts ts roots fs fs') : verifyRoots fs' (key ts) strict (roots.map (growRoot f)) = none := by
  rw [verifyRoots_eq_findSome, List.findSome?_eq_none_iff]
  intro vs hvs
  obtain ⟨t, ht, rfl⟩ := List.mem_map.mp hvs
  obtain ⟨d, hv, hm, he⟩ := verifyRoot_of_exact f h hc hcanon hex t ht
  simp [verifyOne, hv, hm, he]

end exact

end Gtree
