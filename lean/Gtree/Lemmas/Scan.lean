import Gtree.Lemmas.ByteEq
import Gtree.Model.Bytes
import Gtree.Spec.Spelling
/- `bufio.Scanner` over a spelled document delivers exactly the rows that were written. -/
namespace Gtree

theorem splitLF_ne_nil (d : Bytes) : splitLF d ≠ [] := by
  cases d with
  | nil => simp [splitLF]
  | cons x xs =>
    simp only [splitLF]
    cases h : splitLF xs with
    | nil => simp
    | cons l ls =>
      simp only
      split <;> simp

theorem splitLF_noLF (r : Bytes) (h : lf ∉ r) : splitLF r = [r] := by
  induction r with
  | nil => rfl
  | cons x xs ih =>
    rw [List.mem_cons, not_or] at h
    simp [splitLF, ih h.2, beq_false_of_ne (Ne.symm h.1)]

theorem splitLF_append (r rest : Bytes) (h : lf ∉ r) : splitLF (r ++ lf :: rest) = r :: splitLF rest := by
  induction r with
  | nil =>
    simp only [List.nil_append, splitLF]
    cases hs : splitLF rest with
    | nil => exact absurd hs (splitLF_ne_nil rest)
    | cons l ls => simp
  | cons x xs ih =>
    rw [List.mem_cons, not_or] at h
    simp only [List.cons_append, splitLF, ih h.2, beq_false_of_ne (Ne.symm h.1), Bool.false_eq_true, if_false]

theorem rawLines_noLF (r : Bytes) (h : lf ∉ r) (hne : r ≠ []) : rawLines r = [r] := by
  cases r with
  | nil => exact absurd rfl hne
  | cons x xs => simp [rawLines, splitLF_noLF _ h]

theorem rawLines_append (r rest : Bytes) (h : lf ∉ r) : rawLines (r ++ lf :: rest) = r :: rawLines rest := by
  unfold rawLines
  rw [splitLF_append r rest h]
  cases hs : splitLF rest with
  | nil => exact absurd hs (splitLF_ne_nil rest)
  | cons l ls =>
    simp only [List.dropLast_cons_cons, List.getLast?_cons_cons]
    split <;> rfl

theorem dropCR_noCR (r : Bytes) (h : r.getLast? ≠ some cr) : dropCR r = r := by
  unfold dropCR
  cases hl : r.getLast? with
  | none => rfl
  | some c =>
    have : (c == cr) = false := by simpa using fun e : c = cr => h (by rw [hl, e])
    simp [this]

/-- `+ 1` in `hlen`: the token `bufio` measures includes the CR of a CRLF ending (`Spelling.Valid.hshort` has the same bound
    for either ending, so for LF endings it is one tighter than the scanner's) -/
theorem scanLinesAux_row (s : Spelling) (r rest : Bytes) (acc : List Bytes)
    (hlf : lf ∉ r) (hcr : r.getLast? ≠ some cr) (hlen : r.length + 1 < maxToken) :
    scanLinesAux (rawLines (r ++ eol s ++ rest)) acc = scanLinesAux (rawLines rest) (r :: acc) := by
  unfold eol
  split
  · have hlf' : lf ∉ r ++ [cr] := by simp [hlf]; decide
    rw [show r ++ [cr, lf] ++ rest = (r ++ [cr]) ++ lf :: rest by simp, rawLines_append _ _ hlf', scanLinesAux,
      if_neg (by rw [List.length_append]; exact Nat.not_le.mpr hlen)]
    simp [dropCR]
  · rw [show r ++ [lf] ++ rest = r ++ lf :: rest by simp, rawLines_append _ _ hlf, scanLinesAux,
      if_neg (Nat.not_le.mpr (Nat.lt_of_succ_lt hlen)), dropCR_noCR r hcr]

/-- The last row may be unterminated; the scanner delivers such a piece only if it is not empty (the third hypothesis). -/
theorem scanLinesAux_joinRows (s : Spelling) (rows : List Bytes) : ∀ acc : List Bytes,
    (∀ r ∈ rows, lf ∉ r) → (∀ r ∈ rows, r.getLast? ≠ some cr ∧ r.length + 1 < maxToken) →
    (∀ r, rows.getLast? = some r → r ≠ []) →
    scanLinesAux (rawLines (joinRows s rows)) acc = ⟨acc.reverse ++ rows, false⟩ := by
  induction rows with
  | nil => intros; simp [joinRows, rawLines, splitLF, scanLinesAux]
  | cons r rows ih =>
    intro acc hlf hrow hlast
    obtain ⟨hcr, hlen⟩ := hrow r (by simp)
    cases rows with
    | nil =>
      unfold joinRows
      split
      · rw [← List.append_nil (r ++ eol s), scanLinesAux_row s r [] acc (hlf r (by simp)) hcr hlen]
        simp [rawLines, splitLF, scanLinesAux]
      · rw [rawLines_noLF r (hlf r (by simp)) (hlast r rfl)]
        simp [scanLinesAux, show ¬ r.length ≥ maxToken from Nat.not_le.mpr (Nat.lt_of_succ_lt hlen), dropCR_noCR r hcr]
    | cons r2 rs =>
      rw [joinRows, scanLinesAux_row s r _ acc (hlf r (by simp)) hcr hlen,
        ih (r :: acc) (fun x hx => hlf x (by simp [hx]))
          (fun x hx => hrow x (by simp [hx])) (fun x hx => hlast x (by rw [List.getLast?_cons_cons]; exact hx))]
      simp

theorem rowOf_shape (s : Spelling) (i h : Nat) (n : Bytes) :
    ∃ m b, rowOf s i h n = List.replicate m s.c ++ b :: sp :: n ∧ m ≤ h * s.unit ∧ (b = shp ∨ b = s.bullet i) := by
  have hk : ∀ k, k ≤ h → ∃ m b, listRow s i k n = List.replicate m s.c ++ b :: sp :: n ∧ m ≤ h * s.unit ∧
      (b = shp ∨ b = s.bullet i) :=
    fun k hk => ⟨k * s.unit, s.bullet i, rfl, Nat.mul_le_mul_right s.unit hk, Or.inr rfl⟩
  unfold rowOf
  split
  · split
    · exact ⟨0, shp, rfl, Nat.zero_le _, Or.inl rfl⟩
    · exact hk _ (Nat.sub_le h 2)
  · exact hk _ (Nat.sub_le h 1)

theorem rowOf_length_le (s : Spelling) (i h : Nat) (n : Bytes) :
    (rowOf s i h n).length ≤ h * s.unit + 2 + n.length := by
  obtain ⟨m, b, e, hm, _⟩ := rowOf_shape s i h n
  rw [e, List.length_append, List.length_replicate, Nat.add_assoc, Nat.add_comm 2]
  exact Nat.add_le_add_right hm _

theorem getLast?_append_cons {α} (a : List α) (x : α) (b : List α) : (a ++ x :: b).getLast? = (x :: b).getLast? := by
  rw [List.getLast?_append, List.getLast?_cons]; rfl

theorem rowOf_getLast (s : Spelling) (i h : Nat) (n : Bytes) (hn : n ≠ []) : (rowOf s i h n).getLast? = n.getLast? := by
  obtain ⟨m, b, e, _, _⟩ := rowOf_shape s i h n
  rw [e, getLast?_append_cons]
  cases n with
  | nil => exact absurd rfl hn
  | cons x xs => simp [List.getLast?_cons_cons]

theorem rowOf_noLF (s : Spelling) (i h : Nat) (n : Bytes) (hc : s.c = sp ∨ s.c = tab)
    (hb : s.bullet i = hy ∨ s.bullet i = ast ∨ s.bullet i = pls) (hn : lf ∉ n) : lf ∉ rowOf s i h n := by
  obtain ⟨m, b, e, _, hsym⟩ := rowOf_shape s i h n
  have hclf : s.c ≠ lf := by rcases hc with h | h <;> rw [h] <;> decide
  have hblf : b ≠ lf := by
    rcases hsym with rfl | rfl
    · decide
    · rcases hb with h | h | h <;> rw [h] <;> decide
  rw [e]
  simp only [List.mem_append, List.mem_replicate, List.mem_cons, not_or, not_and]
  exact ⟨fun _ h => hclf h.symm, fun h => hblf h.symm, by decide, hn⟩

theorem spellRows_forall (s : Spelling) (P : Bytes → Prop) (hB : ∀ i, ∀ b ∈ s.blanks i, P b)
    (its : List (Nat × Bytes)) : ∀ i : Nat, (∀ it ∈ its, ∀ j, P (rowOf s j it.1 it.2)) →
      ∀ r ∈ spellRows s i its, P r := by
  induction its with
  | nil => intro _ _ r hr; simp [spellRows] at hr
  | cons it rest ih =>
    obtain ⟨h, n⟩ := it
    intro i hits r hr
    simp only [spellRows, List.mem_append, List.mem_cons] at hr
    rcases hr with hr | rfl | hr
    · exact hB i r hr
    · exact hits (h, n) (by simp) i
    · exact ih (i + 1) (fun it hit => hits it (by simp [hit])) r hr

theorem spellRows_getLast_ne_nil (s : Spelling) (its : List (Nat × Bytes)) : ∀ (i : Nat) (r : Bytes),
    (spellRows s i its).getLast? = some r → r ≠ [] := by
  induction its with
  | nil => intro _ _ hr; simp [spellRows] at hr
  | cons it rest ih =>
    obtain ⟨h, n⟩ := it
    intro i r hr
    rw [spellRows, getLast?_append_cons] at hr
    cases hrest : spellRows s (i + 1) rest with
    | nil =>
      rw [hrest] at hr
      cases hr
      obtain ⟨m, b, e, _, _⟩ := rowOf_shape s i h n
      simp [e]
    | cons r2 rs2 =>
      rw [hrest, List.getLast?_cons_cons, ← hrest] at hr
      exact ih (i + 1) r hr

theorem scanLines_spell (f : List T) (s : Spelling) (hv : s.Valid (items 1 f)) :
    scanLines (spell f s) = ⟨spellRows s 0 (items 1 f), false⟩ := by
  refine scanLinesAux_joinRows s _ [] ?_ ?_ (spellRows_getLast_ne_nil s _ 0)
  · exact spellRows_forall s (lf ∉ ·) (fun i b hb => (hv.hblank i b hb).2.1) _ 0
      fun it hit j => rowOf_noLF s j it.1 it.2 hv.hc (hv.hbullet j) (hv.names it hit).noLF
  · intro r hr
    refine ⟨?_, hv.hshort 0 r hr⟩
    exact spellRows_forall s (·.getLast? ≠ some cr) (fun i b hb => (hv.hblank i b hb).2.2) _ 0
      (fun it hit j => by rw [rowOf_getLast s j it.1 it.2 (hv.names it hit).nonempty]; exact (hv.names it hit).noTrailCR) r hr

end Gtree
