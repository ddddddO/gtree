import Gtree.Generated.Source
/-
  The option plumbing of config.go, proved about the translated source (`Generated/Source.lean`) directly.
-/
namespace Gtree
open Gtree.Go Gtree.Src

/-- the public options as data -/
inductive Opt where
  | nil_ | dryRun | json | yaml | toml | massive | strict | noIter
  | exts (e : List Bytes) | target (d : Bytes) | fmtLast (a b : Bytes) | fmtMid (a b : Bytes)

/-- the value of type `Option` (Go) the caller passes -/
def Opt.fn : Opt → Option (config → config)
  | .nil_ => none
  | .dryRun => some WithDryRun
  | .json => some WithEncodeJSON
  | .yaml => some WithEncodeYAML
  | .toml => some WithEncodeTOML
  | .massive => some WithMassive
  | .strict => some WithStrictVerify
  | .noIter => some WithNoUseIterOfSimpleOutput
  | .exts e => some (WithFileExtensions e)
  | .target d => some (WithTargetDir d)
  | .fmtLast a b => some (WithBranchFormatLastNode a b)
  | .fmtMid a b => some (WithBranchFormatIntermedialNode a b)

/-- what each option means -/
def Opt.apply (c : config) : Opt → config
  | .nil_ => c
  | .dryRun => { c with dryrun := true }
  | .json => { c with encode := encodeJSON }
  | .yaml => { c with encode := encodeYAML }
  | .toml => { c with encode := encodeTOML }
  | .massive => { c with massive := true }
  | .strict => { c with strictVerify := true }
  | .noIter => { c with noUseIterOfSimpleOutput := true }
  | .exts e => { c with fileExtensions := e }
  | .target d => { c with targetDir := d }
  | .fmtLast a b => { c with lastNodeFormat := { directly := a, indirectly := b } }
  | .fmtMid a b => { c with intermedialNodeFormat := { directly := a, indirectly := b } }

/-- the configuration before any option -/
def defaultConfig : config := newConfig []

theorem forRange_options (F : Option (config → config) → config → Ctl config config)
    (hn : ∀ st, F none st = Ctl.next st) (hs : ∀ f st, F (some f) st = Ctl.next (f st)) :
    ∀ (xs : List (Option (config → config))) (c : config),
      forRange xs c F = Ctl.next (xs.foldl (fun c o => match o with | none => c | some f => f c) c)
  | [], c => rfl
  | none :: xs, c => by simp only [forRange, hn, List.foldl_cons]; exact forRange_options F hn hs xs c
  | some f :: xs, c => by simp only [forRange, hs, List.foldl_cons]; exact forRange_options F hn hs xs (f c)

theorem opt_fn_apply (o : Opt) (c : config) :
    (match o.fn with | none => c | some f => f c) = Opt.apply c o := by
  cases o <;> rfl

theorem newConfig_fold (xs : List (Option (config → config))) :
    newConfig xs = xs.foldl (fun c o => match o with | none => c | some f => f c) (newConfig []) := by
  unfold newConfig
  dsimp only
  rw [forRange_options _ (fun _ => rfl) (fun _ _ => rfl) xs, forRange_options _ (fun _ => rfl) (fun _ _ => rfl) []]
  rfl

/-- `newConfig` of config.go -/
theorem newConfig_src (os : List Opt) : newConfig (os.map Opt.fn) = os.foldl Opt.apply defaultConfig := by
  rw [newConfig_fold, List.foldl_map]
  simp only [opt_fn_apply]
  rfl

theorem defaultConfig_fields :
    defaultConfig.dryrun = false ∧ defaultConfig.massive = false ∧ defaultConfig.encode = encodeDefault ∧
    defaultConfig.strictVerify = false ∧ defaultConfig.targetDir = [0x2E] ∧ defaultConfig.fileExtensions = [] ∧
    defaultConfig.noUseIterOfSimpleOutput = false := by
  refine ⟨rfl, rfl, rfl, rfl, rfl, rfl, rfl⟩

def Opt.isDryRun : Opt → Bool
  | .dryRun => true
  | _ => false

theorem dryrun_fold (os : List Opt) (c : config) :
    (os.foldl Opt.apply c).dryrun = (c.dryrun || os.any Opt.isDryRun) := by
  induction os generalizing c with
  | nil => simp
  | cons o os ih =>
    simp only [List.foldl_cons, List.any_cons]
    rw [ih]
    cases o <;> simp [Opt.apply, Opt.isDryRun]

/-- the last encoding option wins; none leaves the default -/
def lastEncode (e : Int) : List Opt → Int
  | [] => e
  | .json :: os => lastEncode encodeJSON os
  | .yaml :: os => lastEncode encodeYAML os
  | .toml :: os => lastEncode encodeTOML os
  | _ :: os => lastEncode e os

theorem encode_fold (os : List Opt) (c : config) : (os.foldl Opt.apply c).encode = lastEncode c.encode os := by
  induction os generalizing c with
  | nil => rfl
  | cons o os ih =>
    simp only [List.foldl_cons]
    rw [ih]
    cases o <;> simp [Opt.apply, lastEncode]

/-- `newConfigWithoutEncode` of config.go (Mkdir, Verify, Walk) -/
theorem newConfigWithoutEncode_src (xs : List (Option (config → config))) :
    newConfigWithoutEncode xs = { newConfig xs with encode := encodeDefault } := by
  unfold newConfigWithoutEncode
  rfl

end Gtree
