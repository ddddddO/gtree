import Gtree.Generated.Heap.Core
import Gtree.Model.Grow
import Gtree.Lemmas.SourceRefines
import Gtree.Lemmas.Tree
/-
  Heaps that hold trees: what it means that the heap of the heap-mode translation (/verif/translate, `Generated/Heap/*`)
  holds a model tree at a pointer (`Repr`), what the traversals read from its nodes (`readNode`), what the methods of
  node.go do to a heap, how much fuel a traversal needs (`fuel_node`, `fuel2_node`), the fold with early exit in which
  the traversals' results are stated (`runAll`), and the file decision of file_considerer.go (`isFile_heap`), which the
  mkdirer and the dry-run printer share.  Depends on the translation of node.go and file_considerer.go
  (`Generated/Heap/Core`) only.
-/
namespace Gtree.SrcH
open Gtree Gtree.Go

/-- the branch strings the grower holds, as the model's `Fmt` -/
def fmtOf (dg : defaultGrowerSimple) : Fmt :=
  { lastD := dg.lastNodeFormat.directly, lastI := dg.lastNodeFormat.indirectly,
    midD := dg.intermedialNodeFormat.directly, midI := dg.intermedialNodeFormat.indirectly }

/-- every write of the grower: the `brnch` field of one cell -/
def setBr (h : Heap) (n : Ptr) (b : Src.branch) : Heap := Heap.set h n { (h n) with brnch := b }

theorem setBr_apply (h : Heap) (n q : Ptr) (b : Src.branch) :
    setBr h n b q = if q = n then { (h n) with brnch := b } else h q := rfl

@[simp] theorem setBr_self (h : Heap) (n : Ptr) (b : Src.branch) :
    (setBr h n b) n = { (h n) with brnch := b } := by rw [setBr_apply, if_pos rfl]

theorem setBr_other (h : Heap) (n q : Ptr) (b : Src.branch) (hq : q ≠ n) : (setBr h n b) q = h q := by
  rw [setBr_apply, if_neg hq]

/-- `h'` has the shape of `h`: names, levels, parent links and child lists agree (branches and paths may differ) -/
def SameShape (h h' : Heap) : Prop :=
  ∀ q, (h' q).name = (h q).name ∧ (h' q).hierarchy = (h q).hierarchy ∧ (h' q).parent = (h q).parent ∧
    (h' q).children = (h q).children

theorem SameShape.refl (h : Heap) : SameShape h h := fun _ => ⟨rfl, rfl, rfl, rfl⟩
theorem SameShape.trans {h h' h'' : Heap} (a : SameShape h h') (b : SameShape h' h'') : SameShape h h'' := fun q =>
  ⟨(b q).1.trans (a q).1, (b q).2.1.trans (a q).2.1, (b q).2.2.1.trans (a q).2.2.1, (b q).2.2.2.trans (a q).2.2.2⟩

theorem SameShape.setBr (h : Heap) (n : Ptr) (b : Src.branch) : SameShape h (setBr h n b) := fun q => by
  by_cases hq : q = n
  · rw [hq, setBr_self]; exact ⟨rfl, rfl, rfl, rfl⟩
  · rw [setBr_other h n q b hq]; exact ⟨rfl, rfl, rfl, rfl⟩

@[simp] theorem setBr_name (h : Heap) (n q : Ptr) (b : Src.branch) : ((setBr h n b) q).name = (h q).name :=
  (SameShape.setBr h n b q).1
@[simp] theorem setBr_hierarchy (h : Heap) (n q : Ptr) (b : Src.branch) :
    ((setBr h n b) q).hierarchy = (h q).hierarchy :=
  (SameShape.setBr h n b q).2.1
@[simp] theorem setBr_parent (h : Heap) (n q : Ptr) (b : Src.branch) : ((setBr h n b) q).parent = (h q).parent :=
  (SameShape.setBr h n b q).2.2.1
@[simp] theorem setBr_children (h : Heap) (n q : Ptr) (b : Src.branch) :
    ((setBr h n b) q).children = (h q).children :=
  (SameShape.setBr h n b q).2.2.2
@[simp] theorem setBr_brnch_self (h : Heap) (n : Ptr) (b : Src.branch) : ((setBr h n b) n).brnch = b := by
  rw [setBr_self]

@[simp] theorem setBr_setBr (h : Heap) (n : Ptr) (b b' : Src.branch) : setBr (setBr h n b) n b' = setBr h n b' := by
  funext q
  by_cases hq : q = n
  · subst hq; simp
  · simp [setBr_other _ _ _ _ hq]

theorem add_bytes (a b : Bytes) : a + b = a ++ b := rfl

theorem setBranch_eq (h : Heap) (n : Ptr) (xs : List Bytes) :
    Node.setBranch h n xs = setBr h n { (h n).brnch with value := xs.flatten } := by
  have key : ∀ (xs : List Bytes) (acc : Bytes),
      forRange xs (h, acc) (fun v st_ => (Ctl.next (st_.1, st_.2 + v) : Ctl (Heap × Bytes) Heap))
        = Ctl.next (h, acc ++ xs.flatten) := by
    intro xs
    induction xs with
    | nil => intro acc; rw [forRange, List.flatten_nil, List.append_nil]
    | cons x xs ih => intro acc; exact (ih (acc ++ x)).trans (by rw [List.flatten_cons, List.append_assoc])
  unfold Node.setBranch
  dsimp only
  rw [key]
  rfl

theorem setPath_eq (h : Heap) (n : Ptr) (xs : List Bytes) :
    Node.setPath h n xs = setBr h n { (h n).brnch with path := pathJoin xs } := by
  simp [Node.setPath, setBr, Go.path_Join]

theorem clean_eq (h : Heap) (n : Ptr) : Node.clean h n = setBr h n ⟨[], []⟩ := by
  have hj : pathJoin [([] : Bytes)] = [] := rfl
  simp [Node.clean, setBranch_eq, setPath_eq, hj]

theorem isLast_shape {h h' : Heap} (s : SameShape h h') (q : Ptr) :
    Node.isLastOfHierarchy h' q = Node.isLastOfHierarchy h q := by
  simp [Node.isLastOfHierarchy, (s q).2.2.1, (s (h q).parent).2.2.2]

theorem isLast_setBr (h : Heap) (n q : Ptr) (b : Src.branch) :
    Node.isLastOfHierarchy (setBr h n b) q = Node.isLastOfHierarchy h q :=
  isLast_shape (SameShape.setBr h n b) q

theorem isRoot_eq (h : Heap) (p : Ptr) : Node.isRoot h p = ((h p).hierarchy == 1) := rfl

theorem isRoot_setBr (h : Heap) (n q : Ptr) (b : Src.branch) : Node.isRoot (setBr h n b) q = Node.isRoot h q := by
  simp [Node.isRoot]

/-- `Up h root q anc`: following the parent links from `q` one meets the ancestors `anc` strictly below the root
    (nearest first: name, and whether the ancestor is its parent's last child) and then the root -/
def Up (h : Heap) (root : Ptr) : Ptr → List Anc → Prop
  | q, [] => q = root ∧ root ≠ 0 ∧ (h root).hierarchy = 1
  | q, a :: anc => q ≠ 0 ∧ (h q).hierarchy ≠ 1 ∧ (h q).name = a.1 ∧ Node.isLastOfHierarchy h q = a.2 ∧
      Up h root (h q).parent anc

theorem Up_shape {h h' : Heap} (s : SameShape h h') (root : Ptr) :
    ∀ (anc : List Anc) (q : Ptr), Up h' root q anc ↔ Up h root q anc
  | [], q => by simp [Up, (s root).2.1]
  | a :: anc, q => by simp [Up, isLast_shape s, Up_shape s root anc, (s q).1, (s q).2.1, (s q).2.2.1]

theorem Up_setBr (h : Heap) (root n : Ptr) (b : Src.branch) :
    ∀ (anc : List Anc) (q : Ptr), Up (setBr h n b) root q anc ↔ Up h root q anc :=
  Up_shape (SameShape.setBr h n b) root

theorem Up_ne_zero (h : Heap) (root : Ptr) : ∀ (anc : List Anc) (q : Ptr), Up h root q anc → q ≠ 0
  | [], _, hu => by obtain ⟨rfl, h0, _⟩ := hu; exact h0
  | _ :: _, _, hu => hu.1

theorem Up_root (h : Heap) (root : Ptr) : ∀ (anc : List Anc) {q : Ptr}, Up h root q anc →
    root ≠ 0 ∧ (h root).hierarchy = 1
  | [], _, hu => ⟨hu.2.1, hu.2.2⟩
  | _ :: anc, _, hu => Up_root h root anc hu.2.2.2.2

mutual
/-- the heap holds the tree `t` at pointer `p`, whose parent pointer is `par` and whose level is `lvl` -/
def Repr (h : Heap) : T → Ptr → Ptr → Nat → Prop
  | .mk n ks, p, par, lvl => p ≠ 0 ∧ (h p).name = n ∧ (h p).hierarchy = (lvl : Int) ∧ (h p).parent = par ∧
      ReprKids h ks (h p).children p (lvl + 1)
def ReprKids (h : Heap) : List T → List Ptr → Ptr → Nat → Prop
  | [], cs, _, _ => cs = []
  | t :: ts, cs, par, lvl => ∃ c cs', cs = c :: cs' ∧ Repr h t c par lvl ∧ ReprKids h ts cs' par lvl
end

mutual
/-- the pointers of the nodes of the tree held at `p`, pre-order -/
def ptrs (h : Heap) : T → Ptr → List Ptr
  | .mk _ ks, p => p :: ptrsKids h ks (h p).children
def ptrsKids (h : Heap) : List T → List Ptr → List Ptr
  | [], _ => []
  | _ :: _, [] => []
  | t :: ts, c :: cs => ptrs h t c ++ ptrsKids h ts cs
end

mutual
/-- what the walker, the printers and the mkdirer read from the nodes of the tree held at `p`, pre-order -/
def readNode (h : Heap) : T → Ptr → Nat → List Visit
  | .mk _ ks, p, lvl =>
    { name := (h p).name, branch := Node.branch h p, level := lvl, path := Node.path h p, hasChild := Node.hasChild h p }
      :: readKids h ks (h p).children (lvl + 1)
def readKids (h : Heap) : List T → List Ptr → Nat → List Visit
  | [], _, _ => []
  | _ :: _, [], _ => []
  | t :: ts, c :: cs, lvl => readNode h t c lvl ++ readKids h ts cs lvl
end

/-! A tree is the forest of one tree: the facts about `Repr`, `ptrs`, `readNode` are read off their `…Kids` versions. -/

@[simp] theorem ReprKids_nil (h : Heap) (cs : List Ptr) (par : Ptr) (lvl : Nat) :
    ReprKids h [] cs par lvl ↔ cs = [] := by rw [ReprKids]

@[simp] theorem ReprKids_cons (h : Heap) (t : T) (ts : List T) (c : Ptr) (cs : List Ptr) (par : Ptr) (lvl : Nat) :
    ReprKids h (t :: ts) (c :: cs) par lvl ↔ Repr h t c par lvl ∧ ReprKids h ts cs par lvl := by
  rw [ReprKids]
  exact ⟨fun ⟨_, _, he, h1, h2⟩ => by cases he; exact ⟨h1, h2⟩, fun ⟨h1, h2⟩ => ⟨c, cs, rfl, h1, h2⟩⟩

theorem ReprKids_singleton {h : Heap} {t : T} {p par : Ptr} {lvl : Nat} :
    ReprKids h [t] [p] par lvl ↔ Repr h t p par lvl := by
  rw [ReprKids_cons, ReprKids_nil, and_iff_left rfl]

theorem ptrsKids_singleton (h : Heap) (t : T) (p : Ptr) : ptrsKids h [t] [p] = ptrs h t p := by
  rw [ptrsKids, ptrsKids, List.append_nil]

theorem readKids_singleton (h : Heap) (t : T) (p : Ptr) (lvl : Nat) : readKids h [t] [p] lvl = readNode h t p lvl := by
  rw [readKids, readKids, List.append_nil]

/-- what the walker, the printers and the mkdirer read from the node at `p` -/
def visitAt (h : Heap) (p : Ptr) (lvl : Nat) : Visit :=
  { name := (h p).name, branch := Node.branch h p, level := lvl, path := Node.path h p, hasChild := Node.hasChild h p }

theorem readNode_eq (h : Heap) (n : Bytes) (ks : List T) (p : Ptr) (lvl : Nat) :
    readNode h (.mk n ks) p lvl = visitAt h p lvl :: readKids h ks (h p).children (lvl + 1) := by
  rw [readNode, visitAt]

theorem visitAt_congr {h h' : Heap} {p : Ptr} (hp : h' p = h p) (lvl : Nat) : visitAt h' p lvl = visitAt h p lvl := by
  unfold visitAt Node.branch Node.path Node.isRoot Node.hasChild
  rw [hp]

theorem Repr.kids {h : Heap} {n : Bytes} {ks : List T} {p par : Ptr} {lvl : Nat} (hr : Repr h (.mk n ks) p par lvl) :
    ReprKids h ks (h p).children p (lvl + 1) := by
  rw [Repr] at hr; exact hr.2.2.2.2

theorem Repr.level {h : Heap} {t : T} {p par : Ptr} {lvl : Nat} (hr : Repr h t p par lvl) :
    (h p).hierarchy = (lvl : Int) := by
  cases t; rw [Repr] at hr; exact hr.2.2.1

theorem ne_one_of_level {x : Int} {lvl : Nat} (hl : x = (lvl : Int)) (h2 : 2 ≤ lvl) : x ≠ 1 := by
  rw [hl]
  intro he
  have h1 : lvl = 1 := Int.ofNat.inj he
  rw [h1] at h2
  exact absurd h2 (by decide)

theorem fuel_node {n : Bytes} {ks : List T} {fuel : Nat} (hf : (T.mk n ks).size ≤ fuel) :
    ∃ k, fuel = k + 1 ∧ sizeList ks ≤ k := by
  rw [T.size, Nat.add_comm] at hf
  obtain _ | k := fuel
  · exact absurd hf (Nat.not_succ_le_zero _)
  · exact ⟨k, rfl, Nat.le_of_succ_le_succ hf⟩

theorem fuel_cons {n : Bytes} {ks ts : List T} {fuel : Nat} (hf : sizeList (T.mk n ks :: ts) ≤ fuel) :
    ∃ k, fuel = k + 1 ∧ sizeList ks ≤ k ∧ sizeList ts ≤ k + 1 := by
  rw [sizeList] at hf
  obtain ⟨k, rfl, hk⟩ := fuel_node (Nat.le_trans (Nat.le_add_right _ _) hf)
  exact ⟨k, rfl, hk, Nat.le_trans (Nat.le_add_left _ _) hf⟩

/-- The fuel of a growing traversal, `2 * size + m` with `m` the length of the walk up the ancestors: going down one
    level costs one unit for the recursive call and one because the child's walk up is one step longer (`m + 1`). -/
theorem fuel2_node {n : Bytes} {ks : List T} {m fuel : Nat} (hf : 2 * (T.mk n ks).size + m ≤ fuel) :
    ∃ k, fuel = k + 1 ∧ m ≤ k ∧ 2 * sizeList ks + (m + 1) ≤ k := by
  rw [T.size, Nat.mul_add, Nat.add_comm (2 * 1), Nat.add_assoc, Nat.add_comm (2 * 1) m] at hf
  obtain _ | k := fuel
  · exact absurd hf (Nat.not_succ_le_zero _)
  · have h1 : 2 * sizeList ks + (m + 1) ≤ k := Nat.le_of_succ_le_succ hf
    exact ⟨k, rfl, Nat.le_trans (Nat.le_trans (Nat.le_succ m) (Nat.le_add_left _ _)) h1, h1⟩

theorem fuel2_cons {t : T} {ts : List T} {m fuel : Nat} (hf : 2 * sizeList (t :: ts) + m ≤ fuel) :
    2 * t.size + m ≤ fuel ∧ 2 * sizeList ts + m ≤ fuel := by
  rw [sizeList] at hf
  exact ⟨Nat.le_trans (Nat.add_le_add_right (Nat.mul_le_mul_left 2 (Nat.le_add_right _ _)) m) hf,
    Nat.le_trans (Nat.add_le_add_right (Nat.mul_le_mul_left 2 (Nat.le_add_left _ _)) m) hf⟩

theorem fuel_of_fuel2 {n m fuel : Nat} (hf : 2 * n + m ≤ fuel) : n ≤ fuel :=
  Nat.le_trans (Nat.le_trans (Nat.le_mul_of_pos_left n (by decide)) (Nat.le_add_right _ m)) hf

theorem reprKids_induct {h : Heap} {motive : (ts : List T) → (cs : List Ptr) → (par : Ptr) → (lvl : Nat) →
      ReprKids h ts cs par lvl → Prop}
    (nil : ∀ par lvl hr, motive [] [] par lvl hr)
    (cons : ∀ n ks ts c cs par lvl hr, Repr h (.mk n ks) c par lvl → ∀ (hk : ReprKids h ks (h c).children c (lvl + 1))
      (hrs : ReprKids h ts cs par lvl), motive ks (h c).children c (lvl + 1) hk → motive ts cs par lvl hrs →
      motive (.mk n ks :: ts) (c :: cs) par lvl hr) :
    ∀ (ts : List T) (cs : List Ptr) (par : Ptr) (lvl : Nat) (hr : ReprKids h ts cs par lvl), motive ts cs par lvl hr := by
  intro ts
  induction ts using forest_induct with
  | nil =>
    intro cs par lvl hr
    have hcs := hr
    rw [ReprKids] at hcs
    subst hcs
    exact nil par lvl hr
  | cons n ks ts ihk ihs =>
    intro cs par lvl hr
    have hr' := hr
    rw [ReprKids] at hr'
    obtain ⟨c, cs', rfl, hrc, hrs⟩ := hr'
    exact cons n ks ts c cs' par lvl hr hrc hrc.kids hrs (ihk _ c (lvl + 1) hrc.kids) (ihs cs' par lvl hrs)

/-- `h'` agrees with `h` at the pointers `ps` in what `Repr` and `ptrs` read of a cell -/
def AgreeOn (h h' : Heap) (ps : List Ptr) : Prop :=
  ∀ q ∈ ps, (h' q).name = (h q).name ∧ (h' q).hierarchy = (h q).hierarchy ∧ (h' q).parent = (h q).parent ∧
    (h' q).children = (h q).children

theorem SameShape.agreeOn {h h' : Heap} (s : SameShape h h') (ps : List Ptr) : AgreeOn h h' ps := fun q _ => s q

theorem AgreeOn.of_eq {h h' : Heap} {ps : List Ptr} (hq : ∀ q ∈ ps, h' q = h q) : AgreeOn h h' ps := fun q hq' => by
  rw [hq q hq']; exact ⟨rfl, rfl, rfl, rfl⟩

theorem ReprKids_agree {h h' : Heap} : ∀ (ts : List T) (cs : List Ptr) (par : Ptr) (lvl : Nat),
    AgreeOn h h' (ptrsKids h ts cs) → ReprKids h ts cs par lvl → ReprKids h' ts cs par lvl := by
  intro ts cs par lvl hq hr
  induction ts, cs, par, lvl, hr using reprKids_induct with
  | nil => rw [ReprKids]
  | cons n ks ts c cs par lvl _ hrc _ _ ihk ihs =>
    rw [ptrsKids, ptrs] at hq
    rw [Repr] at hrc
    obtain ⟨h0, hn, hl, hp, _⟩ := hrc
    obtain ⟨cn, cl, cp, cc⟩ := hq c (by simp)
    refine ⟨c, cs, rfl, ?_, ihs fun q hq' => hq q (by simp [hq'])⟩
    rw [Repr, cc]
    exact ⟨h0, cn.trans hn, cl.trans hl, cp.trans hp, ihk fun q hq' => hq q (by simp [hq'])⟩

theorem ptrsKids_agree {h h' : Heap} : ∀ (ts : List T) (cs : List Ptr), AgreeOn h h' (ptrsKids h ts cs) →
    ptrsKids h' ts cs = ptrsKids h ts cs := by
  intro ts
  induction ts using forest_induct with
  | nil => intro cs _; rw [ptrsKids, ptrsKids]
  | cons n ks ts ihk ihs =>
    intro cs hq
    obtain _ | ⟨c, cs⟩ := cs
    · rw [ptrsKids, ptrsKids]
    · rw [ptrsKids, ptrs] at hq
      rw [ptrsKids, ptrsKids, ptrs, ptrs, (hq c (by simp)).2.2.2, ihk _ fun q hq' => hq q (by simp [hq']),
        ihs cs fun q hq' => hq q (by simp [hq'])]

theorem ReprKids_shape {h h' : Heap} (s : SameShape h h') (ts : List T) (cs : List Ptr) (par : Ptr) (lvl : Nat) :
    ReprKids h ts cs par lvl → ReprKids h' ts cs par lvl :=
  ReprKids_agree ts cs par lvl (s.agreeOn _)

theorem Repr_shape {h h' : Heap} (s : SameShape h h') (t : T) (p par : Ptr) (lvl : Nat)
    (hr : Repr h t p par lvl) : Repr h' t p par lvl :=
  ReprKids_singleton.mp (ReprKids_shape s [t] [p] par lvl (ReprKids_singleton.mpr hr))

theorem ptrsKids_shape {h h' : Heap} (s : SameShape h h') (ts : List T) (cs : List Ptr) :
    ptrsKids h' ts cs = ptrsKids h ts cs :=
  ptrsKids_agree ts cs (s.agreeOn _)

theorem ptrs_shape {h h' : Heap} (s : SameShape h h') (t : T) (p : Ptr) : ptrs h' t p = ptrs h t p := by
  rw [← ptrsKids_singleton, ← ptrsKids_singleton, ptrsKids_shape s]

theorem readKids_congr {h h' : Heap} : ∀ (ts : List T) (cs : List Ptr) (lvl : Nat),
    (∀ q ∈ ptrsKids h ts cs, h' q = h q) → readKids h' ts cs lvl = readKids h ts cs lvl := by
  intro ts
  induction ts using forest_induct with
  | nil => intro cs lvl _; rw [readKids, readKids]
  | cons n ks ts ihk ihs =>
    intro cs lvl hq
    obtain _ | ⟨c, cs⟩ := cs
    · rw [readKids, readKids]
    · rw [ptrsKids, ptrs] at hq
      have hc : h' c = h c := hq c (by simp)
      rw [readKids, readKids, readNode_eq, readNode_eq, visitAt_congr hc, hc,
        ihs cs lvl fun q hq' => hq q (by simp [hq']), ihk _ (lvl + 1) fun q hq' => hq q (by simp [hq'])]

theorem readNode_congr {h h' : Heap} (t : T) (p : Ptr) (lvl : Nat) (hq : ∀ q ∈ ptrs h t p, h' q = h q) :
    readNode h' t p lvl = readNode h t p lvl := by
  rw [← ptrsKids_singleton] at hq
  rw [← readKids_singleton, ← readKids_singleton, readKids_congr [t] [p] lvl hq]

theorem kids_sublist (h : Heap) : ∀ (ts : List T) (cs : List Ptr) (par : Ptr) (lvl : Nat),
    ReprKids h ts cs par lvl → cs.Sublist (ptrsKids h ts cs) := by
  intro ts cs par lvl hr
  induction ts, cs, par, lvl, hr using reprKids_induct with
  | nil => exact List.Sublist.slnil
  | cons n ks ts c cs par lvl _ _ _ _ _ ihs =>
    rw [ptrsKids, ptrs]
    exact (ihs.trans (List.sublist_append_right _ _)).cons_cons c

theorem ReprKids_length (h : Heap) : ∀ (ts : List T) (cs : List Ptr) (par : Ptr) (lvl : Nat),
    ReprKids h ts cs par lvl → cs.length = ts.length := by
  intro ts cs par lvl hr
  induction ts, cs, par, lvl, hr using reprKids_induct with
  | nil => rfl
  | cons n ks ts c cs par lvl _ _ _ _ _ ihs => rw [List.length_cons, List.length_cons, ihs]

theorem readKids_length (h : Heap) : ∀ (ts : List T) (cs : List Ptr) (par : Ptr) (lvl : Nat),
    ReprKids h ts cs par lvl → (readKids h ts cs lvl).length = sizeList ts := by
  intro ts cs par lvl hr
  induction ts, cs, par, lvl, hr using reprKids_induct with
  | nil => rfl
  | cons n ks ts c cs par lvl _ _ _ _ ihk ihs =>
    rw [readKids, readNode, List.length_append, List.length_cons, ihk, ihs, sizeList, T.size, Nat.add_comm 1]

theorem readNode_length (h : Heap) (t : T) (p par : Ptr) (lvl : Nat) (hr : Repr h t p par lvl) :
    (readNode h t p lvl).length = t.size := by
  rw [← readKids_singleton, readKids_length h [t] [p] par lvl (ReprKids_singleton.mpr hr), sizeList, sizeList,
    Nat.add_zero]

theorem ReprKids_congr {h h' : Heap} (ts : List T) (cs : List Ptr) (par : Ptr) (lvl : Nat)
    (hq : ∀ q ∈ ptrsKids h ts cs, h' q = h q) : ReprKids h ts cs par lvl → ReprKids h' ts cs par lvl :=
  ReprKids_agree ts cs par lvl (.of_eq hq)

theorem Repr_congr {h h' : Heap} : ∀ (t : T) (p par : Ptr) (lvl : Nat), (∀ q ∈ ptrs h t p, h' q = h q) →
    Repr h t p par lvl → Repr h' t p par lvl := by
  intro t p par lvl hq hr
  rw [← ptrsKids_singleton] at hq
  exact ReprKids_singleton.mp (ReprKids_congr [t] [p] par lvl hq (ReprKids_singleton.mpr hr))

theorem ptrsKids_congr {h h' : Heap} (ts : List T) (cs : List Ptr) (hq : ∀ q ∈ ptrsKids h ts cs, h' q = h q) :
    ptrsKids h' ts cs = ptrsKids h ts cs :=
  ptrsKids_agree ts cs (.of_eq hq)

theorem ptrs_congr {h h' : Heap} : ∀ (t : T) (p : Ptr), (∀ q ∈ ptrs h t p, h' q = h q) → ptrs h' t p = ptrs h t p := by
  intro t p hq
  rw [← ptrsKids_singleton] at hq
  rw [← ptrsKids_singleton, ← ptrsKids_singleton, ptrsKids_congr [t] [p] hq]

theorem ReprKids_append_iff (h : Heap) {par : Ptr} {lvl : Nat} : ∀ {a b : List T} {A B : List Ptr},
    A.length = a.length →
    (ReprKids h (a ++ b) (A ++ B) par lvl ↔ ReprKids h a A par lvl ∧ ReprKids h b B par lvl) := by
  intro a
  induction a with
  | nil => intro b A B hl; simp [List.length_eq_zero_iff.mp hl]
  | cons t a ih =>
    intro b A B hl
    obtain _ | ⟨c, A⟩ := A
    · cases hl
    · simp [ih (Nat.succ.inj hl), and_assoc]

theorem ptrsKids_append (h : Heap) : ∀ (a b : List T) (A B : List Ptr), A.length = a.length →
    ptrsKids h (a ++ b) (A ++ B) = ptrsKids h a A ++ ptrsKids h b B := by
  intro a
  induction a with
  | nil => intro b A B hl; simp [List.length_eq_zero_iff.mp hl, ptrsKids]
  | cons t a ih =>
    intro b A B hl
    obtain _ | ⟨c, A⟩ := A
    · cases hl
    · simp only [List.cons_append, ptrsKids, List.append_assoc, ih b A B (Nat.succ.inj hl)]

theorem hasChild_children (h : Heap) (p : Ptr) : Node.hasChild h p = !(h p).children.isEmpty := by
  cases hc : (h p).children <;> simp [Node.hasChild, Go.len, hc]

theorem Repr.hasChild {h : Heap} {n : Bytes} {ks : List T} {p par : Ptr} {lvl : Nat}
    (hr : Repr h (.mk n ks) p par lvl) : Node.hasChild h p = !ks.isEmpty := by
  rw [hasChild_children, Bool.eq_iff_iff]
  simp only [Bool.not_eq_true', ← Bool.not_eq_true, List.isEmpty_iff_length_eq_zero,
    ReprKids_length h ks _ p (lvl + 1) hr.kids]

/-- what a callback reads from the node it is handed, through the accessors of `WalkerNode` -/
def visitOf (h : Heap) (p : Ptr) : Visit :=
  { name := (h p).name, branch := Node.branch h p, level := ((h p).hierarchy).toNat, path := Node.path h p,
    hasChild := Node.hasChild h p }

theorem visitAt_level (h : Heap) (p : Ptr) (lvl : Nat) (hl : (h p).hierarchy = (lvl : Int)) :
    visitAt h p lvl = visitOf h p := by
  simp [visitAt, visitOf, hl]

theorem visitAt_setBr (h : Heap) (p : Ptr) (b : Src.branch) (lvl : Nat) :
    visitAt (setBr h p b) p lvl =
      ⟨(h p).name, b.value, lvl, if (h p).hierarchy = 1 then (h p).name else b.path, Node.hasChild h p⟩ := by
  simp [visitAt, Node.branch, Node.path, Node.isRoot, Node.hasChild, Src.rootHierarchyNum]

theorem indices_eq {α : Type} (xs : List α) : Go.indices xs = (List.range' 0 xs.length).map Int.ofNat := by
  rw [Go.indices, List.range_eq_range']

theorem idxPtr_at (pre : List Ptr) (c : Ptr) (rest : List Ptr) :
    Go.idxPtr (pre ++ c :: rest) (Int.ofNat pre.length) = c := by
  have h0 : ¬ (Int.ofNat pre.length < 0) := Int.not_lt.mpr (Int.natCast_nonneg pre.length)
  rw [Go.idxPtr, if_neg h0]
  simp

theorem idxPtr_concat (ys : List Ptr) (x : Ptr) : Go.idxPtr (ys ++ [x]) (Go.len (ys ++ [x]) - 1) = x := by
  have hl : Go.len (ys ++ [x]) - 1 = Int.ofNat ys.length := by
    simp only [Go.len, List.length_append, List.length_singleton, Int.ofNat_eq_natCast, Int.natCast_add,
      Int.cast_ofNat_Int, Int.add_sub_cancel]
  rw [hl, idxPtr_at]

/-- "is the last child" is decided by identity of pointers; with pairwise different children it is the position -/
theorem isLast_child (h : Heap) (c par : Ptr) (pre cs' : List Ptr) (hpar : (h c).parent = par) (hp0 : par ≠ 0)
    (hch : (h par).children = pre ++ c :: cs') (hnd : ((h par).children).Nodup) :
    Node.isLastOfHierarchy h c = cs'.isEmpty := by
  have hnil : Go.nilPtr = 0 := rfl
  unfold Node.isLastOfHierarchy
  rw [hpar, hnil, if_neg (by simpa using hp0)]
  dsimp only
  rw [hch] at hnd ⊢
  rcases List.eq_nil_or_concat cs' with rfl | ⟨ds, d, rfl⟩
  · rw [idxPtr_concat, beq_self_eq_true]; rfl
  · rw [List.concat_eq_append] at hnd ⊢
    have hcd : c ≠ d := fun he => (List.nodup_cons.mp (List.nodup_append.mp hnd).2.1).1
      (by rw [he]; exact List.mem_append_right _ (List.mem_singleton_self d))
    rw [← List.cons_append, ← List.append_assoc, idxPtr_concat, beq_false_of_ne hcd]
    cases ds <;> rfl

theorem validatePath_heap (h : Heap) (p : Ptr) (v : Visit) (hn : (h p).name = v.name)
    (hp : Node.path h p = v.path) (hroot : v.level = 1 → v.path = v.name) :
    Node.validatePath h p = (validateVisit v).map verrSrc := by
  rw [← validatePath_src v hroot]
  unfold Node.validatePath Src.Node.validatePath
  rw [visitNode_path v hroot, hp, hn]
  rfl

theorem validatePath_visitAt (h : Heap) (p : Ptr) (lvl : Nat) (hl : (h p).hierarchy = (lvl : Int)) :
    Node.validatePath h p = (validateVisit (visitAt h p lvl)).map verrSrc :=
  validatePath_heap h p _ rfl rfl fun h1 => by
    have : lvl = 1 := h1
    simp [visitAt, Node.path, Node.isRoot, Src.rootHierarchyNum, hl, this]

/-- the heap holds the forest `ts` at the root pointers `rs` -/
def ReprRoots (h : Heap) : List T → List Ptr → Prop
  | [], rs => rs = []
  | t :: ts, rs => ∃ r rs', rs = r :: rs' ∧ Repr h t r 0 1 ∧ ReprRoots h ts rs'

theorem ReprRoots_iff_kids (h : Heap) : ∀ (ts : List T) (rs : List Ptr), ReprRoots h ts rs ↔ ReprKids h ts rs 0 1
  | [], rs => by rw [ReprRoots, ReprKids]
  | t :: ts, rs => by simp only [ReprRoots, ReprKids, ReprRoots_iff_kids h ts]

theorem ReprRoots_shape {h h' : Heap} (s : SameShape h h') (ts : List T) (rs : List Ptr) (hr : ReprRoots h ts rs) :
    ReprRoots h' ts rs :=
  (ReprRoots_iff_kids h' ts rs).mpr (ReprKids_shape s ts rs 0 1 ((ReprRoots_iff_kids h ts rs).mp hr))

/-- `f` on the elements in order, threading the state, until it returns an error -/
def runAll {α σ : Type} (f : α → σ → σ × Option Src.Err) : List α → σ → σ × Option Src.Err
  | [], s => (s, none)
  | x :: xs, s =>
    match f x s with
    | (s', some e) => (s', some e)
    | (s', none) => runAll f xs s'

theorem runAll_append {α σ : Type} (f : α → σ → σ × Option Src.Err) : ∀ (a b : List α) (s : σ),
    runAll f (a ++ b) s =
      match runAll f a s with
      | (s', some e) => (s', some e)
      | (s', none) => runAll f b s' := by
  intro a b
  induction a with
  | nil => intro s; rfl
  | cons x a ih =>
    intro s
    simp only [List.cons_append, runAll]
    rcases f x s with ⟨s', _ | e⟩
    · exact ih s'
    · rfl

theorem isFile_heap (h : Heap) (fc : fileConsiderer) (p : Ptr) :
    fileConsiderer.isFile h fc p = isFileNode fc.extensions (h p).name (Node.hasChild h p) := by
  unfold fileConsiderer.isFile isFileNode
  cases Node.hasChild h p
  · exact forRange_any (fun e => hasSuffix (h p).name e) fc.extensions
  · rfl

end Gtree.SrcH
