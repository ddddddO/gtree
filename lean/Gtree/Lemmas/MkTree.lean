import Gtree.Lemmas.FSExact
import Gtree.Lemmas.Distinct
import Gtree.Lemmas.Tree
import Gtree.Model.Spread
/-
  makeDirectoriesAndFiles as a recursion over the tree (how the Go code recurses), over lists of path
  elements (`mkTree` / `mkKids`): the Go function written out, tied to the list of its operations by `mkKids_eq_runE`
  (MkPlan.lean); the proofs go by that list.  What the mkdirer is to achieve (`Exact`) and from where (`Fresh`).
-/
namespace Gtree

/-- a node with children is not created as a file -/
theorem isFileNode_inner (exts : List Bytes) (n : Bytes) : isFileNode exts n true = false := by
  simp [isFileNode]

mutual
/-- create the subtree `t` whose parent has the (full, target-prefixed) element list `Q` -/
def mkTree (exts : List Bytes) (Q : List Bytes) : FS → T → FS × Option FErr
  | fs, .mk n ks =>
    if isFileNode exts n (!ks.isEmpty) then
      match fs.mkdirAll (key Q) with
      | (fs1, some e) => (fs1, some e)
      | (fs1, none) => fs1.create (key (Q ++ [n]))
    else if ks.isEmpty then fs.mkdirAll (key (Q ++ [n]))
    else mkKids exts (Q ++ [n]) fs ks
def mkKids (exts : List Bytes) (Q : List Bytes) : FS → List T → FS × Option FErr
  | fs, [] => (fs, none)
  | fs, t :: ts =>
    match mkTree exts Q fs t with
    | (fs1, some e) => (fs1, some e)
    | (fs1, none) => mkKids exts Q fs1 ts
end

mutual
/-- every name in the tree is a good path element -/
def AllGoodT : T → Prop
  | .mk n ks => GoodElem n ∧ AllGoodL ks
def AllGoodL : List T → Prop
  | [] => True
  | t :: ts => AllGoodT t ∧ AllGoodL ts
end

theorem allGoodT_of_mem (ks : List T) (hgl : AllGoodL ks) (t : T) (ht : t ∈ ks) : AllGoodT t := by
  induction ks with
  | nil => simp at ht
  | cons x rest ih =>
    rw [AllGoodL] at hgl
    rcases List.mem_cons.mp ht with rfl | ht
    · exact hgl.1
    · exact ih hgl.2 ht

theorem goodElem_of_mem {ks : List T} (hgl : AllGoodL ks) {n : Bytes} {sub : List T} (ht : T.mk n sub ∈ ks) :
    GoodElem n := by
  have := allGoodT_of_mem ks hgl _ ht
  rw [AllGoodT] at this
  exact this.1

/-- the full element lists of the nodes of `ks` below `Q`, with "is created as a file" -/
def pathsOf (exts : List Bytes) (Q : List Bytes) : List T → List (List Bytes × Bool)
  | [] => []
  | .mk n sub :: rest =>
    (Q ++ [n], isFileNode exts n (!sub.isEmpty)) :: pathsOf exts (Q ++ [n]) sub ++ pathsOf exts Q rest

/-- what a member of `pathsOf` is created as: an empty regular file or a directory -/
def kindOfFlag (b : Bool) : Kind := if b then .file 0 else .dir

theorem mem_pathsOf_cons {exts : List Bytes} {Q : List Bytes} {n : Bytes} {sub rest : List T} {e : List Bytes × Bool} :
    e ∈ pathsOf exts Q (.mk n sub :: rest) ↔
      e = (Q ++ [n], isFileNode exts n (!sub.isEmpty)) ∨ e ∈ pathsOf exts (Q ++ [n]) sub ∨ e ∈ pathsOf exts Q rest := by
  simp [pathsOf]

theorem mem_pathsOf_iff (exts : List Bytes) (Q : List Bytes) (ks : List T) (e : List Bytes × Bool) :
    e ∈ pathsOf exts Q ks ↔ ∃ k ∈ ks, e ∈ pathsOf exts Q [k] := by
  induction ks with
  | nil => simp [pathsOf]
  | cons t rest ih =>
    obtain ⟨n, sub⟩ := t
    simp [ih, pathsOf, or_assoc]

theorem root_mem_pathsOf (exts : List Bytes) (Q : List Bytes) {ks : List T} {n : Bytes} {sub : List T}
    (ht : T.mk n sub ∈ ks) : (Q ++ [n], isFileNode exts n (!sub.isEmpty)) ∈ pathsOf exts Q ks :=
  (mem_pathsOf_iff exts Q ks _).mpr ⟨_, ht, mem_pathsOf_cons.mpr (.inl rfl)⟩

theorem pathsOf_shape (exts : List Bytes) : ∀ (ks : List T) (Q : List Bytes), GoodList Q → AllGoodL ks →
    ∀ e ∈ pathsOf exts Q ks, GoodList e.1 ∧ ∃ k ∈ ks, ∃ tail, e.1 = Q ++ k.name :: tail := by
  intro ks
  induction ks using forest_induct with
  | nil => intro _ _ _ e he; simp [pathsOf] at he
  | cons n sub rest ihs ihr =>
    intro Q hQ hk e he
    rw [AllGoodL, AllGoodT] at hk
    obtain ⟨⟨hn, hsub⟩, hrest⟩ := hk
    have hQn := goodList_snoc hQ hn
    rcases mem_pathsOf_cons.mp he with rfl | he | he
    · exact ⟨hQn, T.mk n sub, List.mem_cons_self, [], rfl⟩
    · obtain ⟨hg, k, _, tail, ht⟩ := ihs (Q ++ [n]) hQn hsub e he
      exact ⟨hg, T.mk n sub, List.mem_cons_self, k.name :: tail, ht.trans (List.append_assoc ..)⟩
    · obtain ⟨hg, k, hk', tail, ht⟩ := ihr Q hQ hrest e he
      exact ⟨hg, k, List.mem_cons_of_mem _ hk', tail, ht⟩

theorem key_not_mem_prefixKeys {Q : List Bytes} (hQ : GoodList Q) {e : List Bytes} (he : GoodList e)
    {x : Bytes} {tail : List Bytes} (hshape : e = Q ++ x :: tail) : key e ∉ prefixKeys Q := by
  intro h
  obtain ⟨y, hy, hpre, hk⟩ := exists_of_mem_prefixKeys hQ.2 h
  -- `e` is longer than `Q`, a prefix of `Q` is not
  have hl := congrArg List.length (key_inj he hy hk)
  rw [hshape, List.length_append, List.length_cons] at hl
  exact Nat.not_succ_le_self _
    (Nat.le_trans (Nat.add_le_add_left (Nat.succ_le_succ (Nat.zero_le tail.length)) _) (hl ▸ hpre.length_le))

theorem key_ne_sibling {Q : List Bytes} {a b : List Bytes} (ha : GoodList a) (hb : GoodList b)
    {x y : Bytes} {ta tb : List Bytes} (hsa : a = Q ++ x :: ta) (hsb : b = Q ++ y :: tb) (hxy : x ≠ y) :
    key a ≠ key b := by
  intro h
  have := key_inj ha hb h
  rw [hsa, hsb] at this
  have := List.append_cancel_left this
  simp only [List.cons.injEq] at this
  exact hxy this.1

theorem pathsOf_root_shape (exts : List Bytes) {Q : List Bytes} (hQ : GoodList Q) {t : T} (ht : AllGoodT t) :
    ∀ e ∈ pathsOf exts Q [t], GoodList e.1 ∧ ∃ tail, e.1 = Q ++ t.name :: tail := by
  intro e he
  obtain ⟨hge, k, hk, tail, hshape⟩ := pathsOf_shape exts [t] Q hQ (by simp [AllGoodL, ht]) e he
  exact ⟨hge, tail, List.mem_singleton.mp hk ▸ hshape⟩

theorem key_ne_of_ne_root (exts : List Bytes) {Q : List Bytes} {ks : List T} (hQ : GoodList Q) (hg : AllGoodL ks)
    (hd : DistinctL ks) {t t' : T} (ht : t ∈ ks) (ht' : t' ∈ ks) (hne : t ≠ t') {x y : List Bytes × Bool}
    (hx : x ∈ pathsOf exts Q [t]) (hy : y ∈ pathsOf exts Q [t']) : key x.1 ≠ key y.1 := by
  obtain ⟨hgx, ta, hsx⟩ := pathsOf_root_shape exts hQ (allGoodT_of_mem ks hg t ht) x hx
  obtain ⟨hgy, tb, hsy⟩ := pathsOf_root_shape exts hQ (allGoodT_of_mem ks hg t' ht') y hy
  exact key_ne_sibling hgx hgy hsx hsy fun e => hne (hd.name_inj t ht t' ht' e)

/-- what `mkKids` achieves, from `fs` to `fs'`.  `make` asks for a node: an empty forest issues no operation.  Only the
    prefixes of `Q` need `keep`: the node paths are new (`Fresh.absent`), everything else is framed. -/
structure Exact (exts : List Bytes) (Q : List Bytes) (ks : List T) (fs fs' : FS) : Prop where
  nodes : ∀ e ∈ pathsOf exts Q ks, fs'.lookup (key e.1) = some (kindOfFlag e.2)
  keep  : ∀ i < Q.length, ∀ k, fs.lookup (key (Q.take (i + 1))) = some k → fs'.lookup (key (Q.take (i + 1))) = some k
  make  : ks ≠ [] → ∀ i < Q.length, fs.lookup (key (Q.take (i + 1))) = none → fs'.lookup (key (Q.take (i + 1))) = some Kind.dir
  frame : ∀ p, (∀ e ∈ pathsOf exts Q ks, p ≠ key e.1) → (∀ i < Q.length, p ≠ key (Q.take (i + 1))) → fs'.lookup p = fs.lookup p

/-- where `mkKids` is exact -/
structure Fresh (exts : List Bytes) (Q : List Bytes) (ks : List T) (fs : FS) : Prop where
  goodQ : GoodList Q
  good : AllGoodL ks
  distinct : DistinctL ks
  notFileQ : ∀ p ∈ prefixKeys Q, notFile fs p
  absent : ∀ e ∈ pathsOf exts Q ks, fs.lookup (key e.1) = none

theorem pathsOf_nodup (exts : List Bytes) : ∀ (ks : List T) (Q : List Bytes), GoodList Q → AllGoodL ks → DistinctL ks →
    ((pathsOf exts Q ks).map (fun e => key e.1)).Nodup := by
  intro ks
  induction ks using forest_induct with
  | nil => intros; simp [pathsOf]
  | cons n sub rest ihs ihr =>
    intro Q hQ hg hd
    rw [AllGoodL, AllGoodT] at hg
    obtain ⟨⟨hn, hgsub⟩, hgrest⟩ := hg
    rw [DistinctL, DistinctT] at hd
    obtain ⟨hne, hdt, hdrest⟩ := hd
    have hQn : GoodList (Q ++ [n]) := goodList_snoc hQ hn
    -- a path of the subtree goes on below `Q ++ [n]`, a path of the other trees through another name than `n`
    have shSub : ∀ e ∈ pathsOf exts (Q ++ [n]) sub, GoodList e.1 ∧ ∃ x tail, e.1 = (Q ++ [n]) ++ x :: tail := by
      intro e he
      obtain ⟨hge, k, _, tail, ht⟩ := pathsOf_shape exts sub (Q ++ [n]) hQn hgsub e he
      exact ⟨hge, k.name, tail, ht⟩
    have shRest : ∀ e ∈ pathsOf exts Q rest, GoodList e.1 ∧ ∃ y tb, e.1 = Q ++ y :: tb ∧ y ≠ n := by
      intro e he
      obtain ⟨hge, k, hk, tail, ht⟩ := pathsOf_shape exts rest Q hQ hgrest e he
      exact ⟨hge, k.name, tail, ht, hne k hk⟩
    simp only [pathsOf, List.map_cons, List.map_append, List.cons_append]
    rw [List.nodup_cons, List.nodup_append]
    refine ⟨?_, ihs (Q ++ [n]) hQn hgsub hdt, ihr Q hQ hgrest hdrest, ?_⟩
    · intro hmem
      rcases List.mem_append.mp hmem with h | h
      · obtain ⟨e, he, hk⟩ := List.mem_map.mp h
        obtain ⟨hge, x, tail, ht⟩ := shSub e he
        exact key_not_mem_prefixKeys hQn hge ht (hk ▸ mem_prefixKeys_of_prefix List.prefix_rfl hQn.1)
      · obtain ⟨e, he, hk⟩ := List.mem_map.mp h
        obtain ⟨hge, y, tb, ht, hyn⟩ := shRest e he
        exact key_ne_sibling hge hQn ht (ta := tb) (tb := []) rfl hyn hk
    · intro a ha b hb hab
      obtain ⟨e, he, rfl⟩ := List.mem_map.mp ha
      obtain ⟨e', he', rfl⟩ := List.mem_map.mp hb
      obtain ⟨hge, x, tail, ht⟩ := shSub e he
      obtain ⟨hge', y, tb, ht', hyn⟩ := shRest e' he'
      exact key_ne_sibling hge hge' (ta := x :: tail) (ht.trans (List.append_assoc ..)) ht' (fun h => hyn h.symm) hab

end Gtree
