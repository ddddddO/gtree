import Gtree.Lemmas.SpelledRows
import Gtree.Lemmas.Scan
/-
  Spelling a forest and generating from the text gives the forest back, each root merged (`generate_spell`):
  the scanner returns the rows written (Scan.lean), the rows parse to the items (SpelledRows.lean), the items build
  the forest (Build.lean).  What is shown here is that the items of a forest meet `FIO`.
-/
namespace Gtree

/-- consecutive items never go more than one level deeper -/
def NoJump : Nat → List (Nat × Bytes) → Prop
  | _, [] => True
  | p, (h, _) :: r => h ≤ p + 1 ∧ NoJump h r

/-- `ht` is the continuation: after the subtrees `ks` at depth `d` the previous level may be anything from `d - 1` on -/
theorem noJump_items (ks : List T) (d p : Nat) (tail : List (Nat × Bytes))
    (hd : d ≤ p + 1) (ht : ∀ q, d ≤ q + 1 → NoJump q tail) : NoJump p (items d ks ++ tail) := by
  induction ks using forest_induct generalizing d p tail with
  | nil => simpa [items] using ht p hd
  | cons n sub rest ihsub ihrest =>
    simp only [items, List.cons_append, List.append_assoc, NoJump]
    exact ⟨hd, ihsub (d + 1) d _ (Nat.le_refl _) (fun q hq => ihrest d q tail (Nat.le_of_succ_le hq) ht)⟩

theorem fio_of_noJump (s : Spelling) : ∀ (its : List (Nat × Bytes)) (p : Nat),
    NoJump p its → p ≤ 1 + (if s.sharp then 1 else 0) → FIO s its
  | [], _, _, _ => trivial
  | (h, n) :: r, p, ⟨hh, hr⟩, hp => by
    unfold FIO
    cases hk : kOf s h with
    | none =>
      obtain ⟨hs, rfl⟩ := kOf_none s h hk
      exact fio_of_noJump s r 1 hr (Nat.le_add_right 1 _)
    | some k =>
      obtain ⟨hkeq, _⟩ := kOf_some s h k hk
      dsimp only
      split
      · exact fio_of_noJump s r h hr (Nat.le_of_sub_eq_zero (hkeq.symm.trans ‹k = 0›))
      · exact Nat.le_antisymm (hkeq ▸ Nat.sub_le_iff_le_add'.mpr (Nat.le_trans hh (Nat.succ_le_succ hp)))
          (Nat.pos_of_ne_zero ‹_›)

theorem fio_items (s : Spelling) (f : List T) : FIO s (items 1 f) := by
  have := noJump_items f 1 0 [] (Nat.le_refl 1) (fun _ _ => trivial)
  rw [List.append_nil] at this
  exact fio_of_noJump s _ 0 this (Nat.zero_le _)

theorem generate_spell (f : List T) (s : Spelling) (hv : s.Valid (items 1 f)) :
    (generate { doc := spell f s }).err = none ∧ (generate { doc := spell f s }).roots = f.map mergeRoot := by
  obtain ⟨r, hadd, hfin⟩ := addItems_forest f {}
  have hits : ∀ it ∈ items 1 f, 1 ≤ it.1 ∧ NameOk s it.1 it.2 :=
    fun it hit => ⟨items_ge 1 f it hit, hv.names it hit⟩
  have hsh := SharpInv.of_items s {} f fun _ => rfl
  obtain ⟨p', hgen, _⟩ := genRows_spelled_havoc s hv.hc hv.hunit hv.hbullet (fun i b hb => (hv.hblank i b hb).1)
    (fun _ q => q) (fun _ q => Evolves.refl s q) (items 1 f) 0 0 {} r hits ⟨⟨.inl rfl, .inl rfl⟩, hsh.sharp_off⟩
    (fun _ => fio_items s f) hsh hadd
  rw [genRowsHavoc_id] at hgen
  obtain ⟨hr, he⟩ := generate_doc (spell f s)
  rw [scanLines_spell f s hv, hgen] at hr he
  exact ⟨he, by rw [hr]; simpa [GState.finishCur] using hfin⟩

theorem generate_spell_distinct (f : List T) (hf : ∀ t ∈ f, DistinctT t) (s : Spelling) (hv : s.Valid (items 1 f)) :
    (generate { doc := spell f s }).err = none ∧ (generate { doc := spell f s }).roots = f := by
  obtain ⟨herr, hroots⟩ := generate_spell f s hv
  exact ⟨herr, hroots.trans ((List.map_congr_left (g := id) fun t ht => mergeRoot_distinct t (hf t ht)).trans (List.map_id f))⟩

end Gtree
