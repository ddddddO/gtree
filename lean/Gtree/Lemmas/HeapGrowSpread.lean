import Gtree.Generated.Heap.GrowSpread
import Gtree.Lemmas.HeapSpread
import Gtree.Lemmas.HeapGrower
/-
  The one-pass printer of the From-Root text path (simple_tree_grow_spreader.go: `growAndSpread`,
  `assembleAndPrint`), translated over the heap: it assembles a node's branch (the grower's `assembleBranch`, a promoted
  method of the embedded grower) and prints the node's row at once, then recurses.  On every heap that holds a forest it
  writes what "grow, then print" writes — the model's `textChunks` through the writer — and, when no `Write` failed,
  leaves the nodes as the grower does.
-/
namespace Gtree.SrcH
open Gtree Gtree.Go

/-- the body of the loop of `assembleAndPrint` over the children -/
def gsBody (dgs : defaultGrowSpreaderSimple) (fuel : Nat) :
    Ptr → Heap × Writer → Go.Ctl (Heap × Writer) (Option (Heap × Writer × Option Src.Err)) :=
  fun child st_ =>
    match st_ with
    | (h_, w_) =>
      match (defaultGrowSpreaderSimple.assembleAndPrint fuel h_ w_ dgs child) with
      | none => Go.Ctl.ret none
      | some r_ =>
        match r_ with
        | (h_, w_, err) => if (Option.isSome err) then Go.Ctl.ret (some (h_, w_, err)) else Go.Ctl.next (h_, w_)

theorem gsBody_eq (dgs : defaultGrowSpreaderSimple) (fuel : Nat) :
    gsBody dgs fuel = travBody fun h w p => defaultGrowSpreaderSimple.assembleAndPrint fuel h w dgs p := by
  funext c ⟨h, w⟩
  rw [gsBody, travBody]
  rcases defaultGrowSpreaderSimple.assembleAndPrint fuel h w dgs c with _ | ⟨h1, w1, e⟩ <;> rfl

/-- the per-node step of `assembleAndPrint`: `assembleBranch`, then the node's line to the writer -/
def gsAct (dgs : defaultGrowSpreaderSimple) : Nat → Heap → Writer → Ptr → Option (Heap × Writer × Option Src.Err) :=
  fun fuel h w p =>
    match defaultGrowerSimple.assembleBranch fuel h dgs.defaultGrowerSimple p with
    | none => none
    | some (h1, some e) => some (h1, w, some e)
    | some (h1, none) => some (h1, fmt_Fprint w (lineAt h1 p))

theorem gs_unfold (fuel : Nat) (h : Heap) (w : Writer) (dgs : defaultGrowSpreaderSimple) (cur : Ptr) :
    defaultGrowSpreaderSimple.assembleAndPrint (fuel + 1) h w dgs cur =
      (match gsAct dgs fuel h w cur with
       | none => none
       | some (h_, w_, err) =>
         if (Option.isSome err) then some (h_, w_, err)
         else
           match Go.forRange (h_ cur).children (h_, w_) (gsBody dgs fuel) with
           | Go.Ctl.ret r_ => r_
           | Go.Ctl.brk st_ | Go.Ctl.next st_ => some (st_.1, st_.2, none)) := by
  rw [gsAct, defaultGrowSpreaderSimple.assembleAndPrint]
  rcases defaultGrowerSimple.assembleBranch fuel h dgs.defaultGrowerSimple cur with _ | ⟨h1, _ | e⟩
  · rfl
  · -- the source has the rest of the function once for a root and once for another node, each with its line
    dsimp only [lineAt]
    cases Node.isRoot h1 cur <;> rfl
  · rfl

theorem gs_trav (dgs : defaultGrowSpreaderSimple) (fuel : Nat) :
    (fun h w p => defaultGrowSpreaderSimple.assembleAndPrint fuel h w dgs p) = trav (gsAct dgs) fuel := by
  induction fuel with
  | zero => rfl
  | succ fuel ih =>
    funext h w p
    rw [gs_unfold, trav, ← ih, ← gsBody_eq]
    rcases gsAct dgs fuel h w p with _ | ⟨h1, w1, _ | e⟩
    · rfl
    · dsimp only
      generalize forRange (h1 p).children _ (gsBody dgs fuel) = y
      rcases y with s | s | r <;> rfl
    · rfl

/-- the lines the model prints for grown visits, through the writer -/
def put (w : Writer) (vs : List Visit) : Writer × Option Src.Err := writeAll w (vs.map lineOf)

theorem put_eq (vs : List Visit) (w : Writer) : put w vs = runAll (fun v w => fmt_Fprint w (lineOf v)) vs w :=
  writeAll_map lineOf vs w

/-- the observer of `assembleAndPrint`: validation when it is on, then the node's line to the writer -/
def gsObs (dgs : defaultGrowSpreaderSimple) : Visit → Writer → Writer × Option Src.Err :=
  fun v w =>
    match (valObs dgs.defaultGrowerSimple v ()).2 with
    | some e => (w, some e)
    | none => fmt_Fprint w (lineOf v)

theorem gsAct_eq (dgs : defaultGrowSpreaderSimple) {fuel : Nat} {h : Heap} {w : Writer} {cur : Ptr} {b : Src.branch}
    {lvl : Nat} {v : Visit} (hl : (h cur).hierarchy = (lvl : Int))
    (hact : liftAct (fun fuel h p => defaultGrowerSimple.assembleBranch fuel h dgs.defaultGrowerSimple p) fuel h () cur =
      some (setBr h cur b, valObs dgs.defaultGrowerSimple v ()))
    (hrd : visitAt (setBr h cur b) cur lvl = v) :
    gsAct dgs fuel h w cur = some (setBr h cur b, gsObs dgs v w) := by
  have hstep : defaultGrowerSimple.assembleBranch fuel h dgs.defaultGrowerSimple cur =
      some (setBr h cur b, (valObs dgs.defaultGrowerSimple v ()).2) := eq_of_liftRes hact
  subst hrd
  rw [gsAct, hstep, gsObs, ← lineAt_visitAt _ _ lvl (by rw [setBr_hierarchy, hl])]
  rcases (valObs dgs.defaultGrowerSimple (visitAt (setBr h cur b) cur lvl) ()).2 with _ | e <;> rfl

theorem gsAct_grows (dgs : defaultGrowSpreaderSimple) :
    Grows (fmtOf dgs.defaultGrowerSimple) id (gsObs dgs) (gsAct dgs) where
  node h w cur root lvl anc fuel v hc0 hl hlvl hup hf hv := by
    obtain ⟨b, hact, hrd⟩ :=
      (assembleBranch_grows dgs.defaultGrowerSimple).node h () cur root lvl anc fuel v hc0 hl hlvl hup hf hv
    exact ⟨b, gsAct_eq dgs hl hact hrd, hrd⟩
  root h w cur fuel v hc0 hl hpar hv := by
    obtain ⟨b, hact, hrd⟩ := (assembleBranch_grows dgs.defaultGrowerSimple).root h () cur fuel v hc0 hl hpar hv
    exact ⟨b, gsAct_eq dgs (lvl := 1) hl hact hrd, hrd⟩

theorem growAndSpread_general (dgs : defaultGrowSpreaderSimple)
    (ts : List T) (h : Heap) (w : Writer) (rs : List Ptr) (fuel : Nat)
    (hr : ReprRoots h ts rs) (hnd : (ptrsKids h ts rs).Nodup) (hf : 2 * sizeList ts + 1 ≤ fuel) :
    ∃ h', defaultGrowSpreaderSimple.growAndSpread fuel h w dgs rs =
        some (h', runAll (gsObs dgs) (ts.flatMap (growRoot (fmtOf dgs.defaultGrowerSimple))) w) ∧
      ((runAll (gsObs dgs) (ts.flatMap (growRoot (fmtOf dgs.defaultGrowerSimple))) w).2 = none →
        Grown h h' (ptrsKids h ts rs) (readKids h' ts rs 1) (ts.flatMap (growRoot (fmtOf dgs.defaultGrowerSimple)))) := by
  obtain ⟨h', hrun, hrest⟩ := trav_forest_loop (gsAct_grows dgs) w hr hnd hf
  rw [← gs_trav, ← gsBody_eq] at hrun
  refine ⟨h', ?_, by simpa only [List.map_id] using hrest⟩
  show (match Go.forRange rs (h, w) (gsBody dgs fuel) with
    | Go.Ctl.ret r_ => r_
    | Go.Ctl.brk st_ | Go.Ctl.next st_ => some (st_.1, st_.2, none)) = _
  rw [hrun]
  rcases runAll (gsObs dgs) (ts.flatMap (growRoot (fmtOf dgs.defaultGrowerSimple))) w with ⟨w', _ | e⟩ <;> rfl

theorem gsObs_off (dgs : defaultGrowSpreaderSimple) (hv : dgs.defaultGrowerSimple.enabledValidation = false) :
    gsObs dgs = fun v w => fmt_Fprint w (lineOf v) := by
  funext v w
  simp [gsObs, valObs, hv]

theorem gsAct_grows_off (dgs : defaultGrowSpreaderSimple) (hv : dgs.defaultGrowerSimple.enabledValidation = false) :
    Grows (fmtOf dgs.defaultGrowerSimple) id (fun v w => fmt_Fprint w (lineOf v)) (gsAct dgs) :=
  gsObs_off dgs hv ▸ gsAct_grows dgs

theorem gs_node (dgs : defaultGrowSpreaderSimple) (root : Ptr) (rn : Bytes)
    (hv : dgs.defaultGrowerSimple.enabledValidation = false) :
    ∀ (t : T) (h : Heap) (w : Writer) (p par : Ptr) (lvl : Nat) (l : Bool) (anc : List Anc) (fuel : Nat),
      2 ≤ lvl → (h root).name = rn → Repr h t p par lvl → Up h root par anc → Node.isLastOfHierarchy h p = l →
      (ptrs h t p).Nodup → 2 * t.size + anc.length ≤ fuel →
      ∃ h', defaultGrowSpreaderSimple.assembleAndPrint fuel h w dgs p =
          some (h', (put w (growNode (fmtOf dgs.defaultGrowerSimple) rn anc lvl l t)).1,
                    (put w (growNode (fmtOf dgs.defaultGrowerSimple) rn anc lvl l t)).2) ∧
        ((put w (growNode (fmtOf dgs.defaultGrowerSimple) rn anc lvl l t)).2 = none →
          SameShape h h' ∧ (∀ q, q ∉ ptrs h t p → h' q = h q) ∧
          readNode h' t p lvl = growNode (fmtOf dgs.defaultGrowerSimple) rn anc lvl l t) := by
  intro t h w p par lvl l anc fuel hlvl hrn hr hup hl hnd hf
  simpa only [← put_eq, List.map_id, ← gs_trav] using
    trav_node (gsAct_grows_off dgs hv) (trav_kids (gsAct_grows_off dgs hv) root rn _) w hlvl hrn hr hup hl hnd hf

theorem gs_kids (dgs : defaultGrowSpreaderSimple) (root : Ptr) (rn : Bytes)
    (hv : dgs.defaultGrowerSimple.enabledValidation = false) :
    ∀ (ts : List T) (h : Heap) (w : Writer) (par : Ptr) (pre cs : List Ptr) (lvl : Nat) (ancP : List Anc) (fuel : Nat),
      2 ≤ lvl → (h root).name = rn → ReprKids h ts cs par lvl → Up h root par ancP →
      (h par).children = pre ++ cs → ((h par).children).Nodup → (ptrsKids h ts cs).Nodup →
      2 * sizeList ts + ancP.length ≤ fuel →
      ∃ h', Go.forRange cs (h, w) (gsBody dgs fuel) =
          (match put w (growKids (fmtOf dgs.defaultGrowerSimple) rn ancP lvl ts) with
           | (w', none) => Go.Ctl.next (h', w')
           | (w', some e) => Go.Ctl.ret (some (h', w', some e))) ∧
        ((put w (growKids (fmtOf dgs.defaultGrowerSimple) rn ancP lvl ts)).2 = none →
          SameShape h h' ∧ (∀ q, q ∉ ptrsKids h ts cs → h' q = h q) ∧
          readKids h' ts cs lvl = growKids (fmtOf dgs.defaultGrowerSimple) rn ancP lvl ts) := by
  intro ts h w par pre cs lvl ancP fuel hlvl hrn hr hup hch hcnd hnd hf
  obtain ⟨h', hrun, hrest⟩ := trav_kids (gsAct_grows_off dgs hv) root rn ts h w par pre cs lvl ancP fuel hlvl hrn hr hup
    hch hcnd hnd hf
  rw [← put_eq, List.map_id] at hrest
  rw [← put_eq, ← gs_trav, ← gsBody_eq] at hrun
  refine ⟨h', hrun.trans ?_, hrest⟩
  rcases put w (growKids (fmtOf dgs.defaultGrowerSimple) rn ancP lvl ts) with ⟨w', _ | e⟩ <;> rfl

theorem growAndSpread_forest (dgs : defaultGrowSpreaderSimple) (hv : dgs.defaultGrowerSimple.enabledValidation = false)
    (ts : List T) (h : Heap) (w : Writer) (rs : List Ptr) (fuel : Nat)
    (hr : ReprRoots h ts rs) (hnd : (ptrsKids h ts rs).Nodup) (hf : 2 * sizeList ts + 1 ≤ fuel) :
    ∃ h', defaultGrowSpreaderSimple.growAndSpread fuel h w dgs rs =
        some (h', (writeAll w (ts.flatMap (textChunks (fmtOf dgs.defaultGrowerSimple)))).1,
                  (writeAll w (ts.flatMap (textChunks (fmtOf dgs.defaultGrowerSimple)))).2) ∧
      ((writeAll w (ts.flatMap (textChunks (fmtOf dgs.defaultGrowerSimple)))).2 = none →
        SameShape h h' ∧ (∀ q, q ∉ ptrsKids h ts rs → h' q = h q) ∧
        readKids h' ts rs 1 = ts.flatMap (growRoot (fmtOf dgs.defaultGrowerSimple))) := by
  have hput : put w (ts.flatMap (growRoot (fmtOf dgs.defaultGrowerSimple)))
      = writeAll w (ts.flatMap (textChunks (fmtOf dgs.defaultGrowerSimple))) := by
    unfold put
    rw [List.map_flatMap]
    rfl
  simpa only [gsObs_off dgs hv, ← put_eq, hput] using growAndSpread_general dgs ts h w rs fuel hr hnd hf

end Gtree.SrcH
