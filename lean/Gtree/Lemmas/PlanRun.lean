import Gtree.Model.MkOps
import Gtree.Lemmas.FSExact
/-
  Runs of `MkdirAll` / `Create` operations on element lists: what any ordered run of operations of a plan leaves is a
  function of the set of operations executed (`stateAfter`), provided the plan's directory keys and file keys do not
  collide with each other or with what is there (`PlanOK`).
-/
namespace Gtree

/-- an operation on element lists: `MkdirAll(key q)` / `Create(key c)` -/
inductive EOp where
  | mk (q : List Bytes)
  | cr (c : List Bytes)
deriving Repr, DecidableEq

def EOp.toOp : EOp → FsOp
  | .mk q => .mkdirAll (key q)
  | .cr c => .create (key c)

def runE (fs : FS) (ops : List EOp) : FS × Option FErr := runOps fs (ops.map EOp.toOp)

/-- the keys a run has created as files -/
def crKeys : List EOp → List Bytes
  | [] => []
  | .cr c :: ops => key c :: crKeys ops
  | .mk _ :: ops => crKeys ops

/-- the keys a run has made sure are directories -/
def mkPrefixes : List EOp → List Bytes
  | [] => []
  | .mk q :: ops => (List.range q.length).map (fun i => key (q.take (i + 1))) ++ mkPrefixes ops
  | .cr _ :: ops => mkPrefixes ops

theorem crKeys_append (a b : List EOp) : crKeys (a ++ b) = crKeys a ++ crKeys b := by
  induction a with
  | nil => rfl
  | cons op ops ih => cases op <;> simp [crKeys, ih]

theorem mkPrefixes_append (a b : List EOp) : mkPrefixes (a ++ b) = mkPrefixes a ++ mkPrefixes b := by
  induction a with
  | nil => rfl
  | cons op ops ih => cases op <;> simp [mkPrefixes, ih]

theorem mem_crKeys (ops : List EOp) (p : Bytes) : p ∈ crKeys ops ↔ ∃ c, EOp.cr c ∈ ops ∧ p = key c := by
  induction ops with
  | nil => simp [crKeys]
  | cons op ops ih => cases op <;> simp [crKeys, ih, or_and_right, exists_or]

theorem mem_mkPrefixes (ops : List EOp) (p : Bytes) : p ∈ mkPrefixes ops ↔ ∃ q, EOp.mk q ∈ ops ∧ p ∈ prefixKeys q := by
  induction ops with
  | nil => simp [mkPrefixes]
  | cons op ops ih =>
    cases op with
    | cr c => simp [mkPrefixes, ih]
    | mk q =>
      rw [show mkPrefixes (.mk q :: ops) = prefixKeys q ++ mkPrefixes ops from rfl]
      simp only [List.mem_append, ih, List.mem_cons, EOp.mk.injEq, or_and_right, exists_or, exists_eq_left]

theorem mem_mkPrefixes_of_prefix {ops : List EOp} {q x : List Bytes} (hq : EOp.mk q ∈ ops) (hx : x <+: q) (hne : x ≠ []) :
    key x ∈ mkPrefixes ops :=
  (mem_mkPrefixes ops _).mpr ⟨q, hq, mem_prefixKeys_of_prefix hx hne⟩

theorem sub_mkPrefixes {a b : List EOp} (h : a ⊆ b) : mkPrefixes a ⊆ mkPrefixes b := by
  intro p hp
  obtain ⟨q, hq, hi⟩ := (mem_mkPrefixes a _).mp hp
  exact (mem_mkPrefixes b _).mpr ⟨q, h hq, hi⟩

theorem sub_crKeys {a b : List EOp} (h : a ⊆ b) : crKeys a ⊆ crKeys b := by
  intro p hp
  obtain ⟨c, hc, e⟩ := (mem_crKeys a _).mp hp
  exact (mem_crKeys b _).mpr ⟨c, h hc, e⟩

/-- what the file system holds after a run of `ops` -/
def stateAfter (fs : FS) (ops : List EOp) (p : Bytes) : Option Kind :=
  if p ∈ crKeys ops then some (.file 0)
  else if fs.lookup p = none ∧ p ∈ mkPrefixes ops then some .dir
  else fs.lookup p

theorem stateAfter_snoc_mk (fs : FS) (done : List EOp) (q : List Bytes) (p : Bytes) :
    stateAfter fs (done ++ [.mk q]) p =
      if stateAfter fs done p = none ∧ p ∈ prefixKeys q then some .dir else stateAfter fs done p := by
  have hq : mkPrefixes [.mk q] = prefixKeys q := List.append_nil _
  simp only [stateAfter, crKeys_append, mkPrefixes_append, crKeys, List.append_nil, List.mem_append, hq]
  by_cases hc : p ∈ crKeys done
  · simp [hc]
  · by_cases hfs : fs.lookup p = none
    · by_cases hd : p ∈ mkPrefixes done <;> simp [hc, hfs, hd]
    · simp [hc, hfs]

theorem stateAfter_snoc_cr (fs : FS) (done : List EOp) (c : List Bytes) (p : Bytes) :
    stateAfter fs (done ++ [.cr c]) p = if p = key c then some (.file 0) else stateAfter fs done p := by
  simp only [stateAfter, crKeys_append, mkPrefixes_append, crKeys, mkPrefixes, List.append_nil, List.mem_append,
    List.mem_singleton]
  by_cases hp : p = key c <;> simp [hp]

theorem stateAfter_congr (fs : FS) (a b : List EOp) (h : ∀ op, op ∈ a ↔ op ∈ b) (p : Bytes) :
    stateAfter fs a p = stateAfter fs b p := by
  have hc : p ∈ crKeys a ↔ p ∈ crKeys b := by simp only [mem_crKeys, h]
  have hm : p ∈ mkPrefixes a ↔ p ∈ mkPrefixes b := by simp only [mem_mkPrefixes, h]
  simp only [stateAfter, hc, hm]

/-- what has to hold of the operations of a plan for any schedule of them to succeed: `MkdirAll` meets no regular file
    on its way (`notFileD`); no key is both made a directory and created as a file (`disjoint`: which of the two fails
    would depend on the order); no key created as a file is there at the start (`absentC`) -/
structure PlanOK (fs : FS) (plan : List EOp) : Prop where
  goodMk : ∀ q, EOp.mk q ∈ plan → GoodList q
  goodCr : ∀ c, EOp.cr c ∈ plan → GoodList c
  notFileD : ∀ p ∈ mkPrefixes plan, notFile fs p
  disjoint : ∀ p ∈ mkPrefixes plan, p ∉ crKeys plan
  absentC : ∀ p ∈ crKeys plan, fs.lookup p = none

/-- every `Create` comes after a `MkdirAll` of exactly its parent (the order inside one root's recursion) -/
def Ordered (r : List EOp) : Prop := ∀ a c b, r = a ++ EOp.cr c :: b → EOp.mk c.dropLast ∈ a

theorem stateAfter_of_not_mem {fs : FS} {done : List EOp} {p : Bytes} (hc : p ∉ crKeys done)
    (hm : p ∉ mkPrefixes done) : stateAfter fs done p = fs.lookup p := by
  simp [stateAfter, hc, hm]

theorem stateAfter_notFile {fs : FS} {done : List EOp} {p : Bytes} (hc : p ∉ crKeys done) (hn : notFile fs p)
    (n : Nat) : stateAfter fs done p ≠ some (.file n) := by
  simp only [stateAfter, hc, if_false]
  split
  · simp
  · exact hn n

section
variable {fs : FS} {plan done : List EOp} (h : PlanOK fs plan) (hd : done ⊆ plan) {p : Bytes}
include h hd

theorem PlanOK.notFile_after (hp : p ∈ mkPrefixes plan) : ∀ n, stateAfter fs done p ≠ some (.file n) :=
  stateAfter_notFile (fun hc => h.disjoint p hp (sub_crKeys hd hc)) (h.notFileD p hp)

theorem PlanOK.dir_after (hp : p ∈ mkPrefixes done) : stateAfter fs done p = some .dir := by
  have hn := h.notFile_after hd (sub_mkPrefixes hd hp)
  have hc : p ∉ crKeys done := fun hc => h.disjoint p (sub_mkPrefixes hd hp) (sub_crKeys hd hc)
  simp only [stateAfter, hc, if_false, hp, and_true] at hn ⊢
  cases hl : fs.lookup p with
  | none => simp
  | some k => cases k with
    | dir => simp
    | file n => exact absurd (by simp [hl]) (hn n)

theorem PlanOK.notDir_after (hp : p ∈ crKeys plan) : stateAfter fs done p ≠ some .dir := by
  have hm : p ∉ mkPrefixes done := fun hm => h.disjoint p (sub_mkPrefixes hd hm) hp
  simp only [stateAfter, hm, and_false, if_false, h.absentC p hp]
  split <;> simp
end

/-- any ordered continuation `rest` of a run `done` inside the plan succeeds, and leaves `stateAfter` of all that has
    run (by induction on `rest`) -/
theorem run_char (fs : FS) (plan : List EOp) (hplan : PlanOK fs plan) :
    ∀ (rest done : List EOp) (s : FS), (∀ p, s.lookup p = stateAfter fs done p) →
      (∀ op ∈ done ++ rest, op ∈ plan) → Ordered (done ++ rest) →
      ∃ s', runE s rest = (s', none) ∧ ∀ p, s'.lookup p = stateAfter fs (done ++ rest) p := by
  intro rest
  induction rest with
  | nil => exact fun done s hs _ _ => ⟨s, rfl, by rwa [List.append_nil]⟩
  | cons op rest ih =>
    intro done s hs hmem hord
    have hdone : done ⊆ plan := fun o ho => hmem o (List.mem_append_left _ ho)
    have hop : op ∈ plan := hmem op (List.mem_append_right _ List.mem_cons_self)
    have step : (s.applyOp op.toOp).2 = none ∧ ∀ p, (s.applyOp op.toOp).1.lookup p = stateAfter fs (done ++ [op]) p := by
      cases op with
      | mk q =>
        obtain ⟨hok, hlk⟩ := mkdirAll_spec s q (hplan.goodMk q hop) (fun p hp n => by
          rw [hs]; exact hplan.notFile_after hdone ((mem_mkPrefixes plan _).mpr ⟨q, hop, hp⟩) n)
        exact ⟨hok, fun p => by rw [EOp.toOp, FS.applyOp, hlk, hs, stateAfter_snoc_mk]⟩
      | cr c =>
        have hmk : EOp.mk c.dropLast ∈ done := hord done c rest rfl
        obtain ⟨hok, hlk⟩ := create_spec s c (hplan.goodCr c hop)
          (by rw [hs]; exact hplan.notDir_after hdone ((mem_crKeys plan _).mpr ⟨c, hop, rfl⟩))
          (fun p hp => by rw [hs]; exact hplan.dir_after hdone ((mem_mkPrefixes done _).mpr ⟨c.dropLast, hmk, hp⟩))
        exact ⟨hok, fun p => by rw [EOp.toOp, FS.applyOp, hlk, hs, stateAfter_snoc_cr]⟩
    obtain ⟨s', hrun, hchar⟩ := ih (done ++ [op]) _ step.2 (by rwa [← List.append_cons]) (by rwa [← List.append_cons])
    refine ⟨s', ?_, by rwa [List.append_cons]⟩
    rw [← hrun, runE, List.map_cons, runOps]
    cases hm : s.applyOp op.toOp with
    | mk s1 e =>
      rw [hm] at step
      simp only at step
      rw [step.1]
      rfl

theorem PlanOK.run {fs : FS} {plan : List EOp} (hplan : PlanOK fs plan) (r : List EOp) (hsub : r ⊆ plan)
    (hord : Ordered r) : ∃ s, runE fs r = (s, none) ∧ ∀ p, s.lookup p = stateAfter fs r p :=
  run_char fs plan hplan r [] fs (fun _ => (stateAfter_of_not_mem List.not_mem_nil List.not_mem_nil).symm) (fun _ h => hsub h) hord

theorem ordered_nil : Ordered [] := fun a _ _ e => by cases a <;> cases e

theorem ordered_cons_mk {q : List Bytes} {r : List EOp} (h : Ordered r) : Ordered (.mk q :: r) := by
  intro a c b e
  cases a with
  | nil => cases e
  | cons x a' =>
    obtain ⟨rfl, e'⟩ := List.cons.inj e
    exact List.mem_cons_of_mem _ (h a' c b e')

theorem ordered_append {a b : List EOp} (ha : Ordered a) (hb : Ordered b) : Ordered (a ++ b) := by
  intro x c y e
  rcases List.append_eq_append_iff.mp e with ⟨a', hx, hb'⟩ | ⟨c', ha', hd⟩
  · rw [hx]
    exact List.mem_append_right _ (hb a' c y hb')
  · cases c' with
    | nil =>
      simp only [List.append_nil, List.nil_append] at ha' hd
      have := hb [] c y hd.symm
      simp at this
    | cons d0 c'' =>
      simp only [List.cons_append, List.cons.injEq] at hd
      obtain ⟨rfl, _⟩ := hd
      exact ha x c c'' ha'

end Gtree
