import Gtree.Model.Api
/-
  The iterator path of the API (`outputIter` over `runRoots`): validation is `findSome?` over the visits, and without a
  write fault every chunk is written and the only error is the validator's or the generator's.
-/
namespace Gtree

theorem validateVisits_eq_findSome (vs : List Visit) : validateVisits vs = vs.findSome? validateVisit := by
  induction vs with
  | nil => rfl
  | cons v vs ih =>
    rw [validateVisits, List.findSome?_cons, ← ih]
    cases validateVisit v <;> rfl

theorem validateVisits_none_single (vs : List Visit) (h : validateVisits vs = none) :
    ∀ v ∈ vs, singleElem v.name = true := by
  rw [validateVisits_eq_findSome, List.findSome?_eq_none_iff] at h
  intro v hv
  have hv := h v hv
  unfold validateVisit at hv
  by_cases hs : singleElem v.name = true
  · exact hs
  · simp [hs] at hv

theorem emit_ok_all (wf : WFault) (cs : List Bytes) (i : Nat) (h : (emit wf cs i).2 = false) : (emit wf cs i).1 = cs.flatten := by
  induction cs generalizing i with
  | nil => simp [emit]
  | cons c cs ih =>
    unfold emit at h ⊢
    cases hf : wf.failAt == some i with
    | true => simp [hf] at h
    | false =>
      simp only [hf, Bool.false_eq_true, if_false] at h ⊢
      simp [ih (i + 1) h]

theorem emit_nofault (cs : List Bytes) (i : Nat) : emit {} cs i = (cs.flatten, false) := by
  induction cs generalizing i with
  | nil => simp [emit]
  | cons c cs ih => simp [emit, ih]

theorem runRoots_ok_all (job : Job) (wf : WFault) :
    ∀ (roots : List T) (i : Nat), (runRoots job wf roots i).2.1 = none →
      (runRoots job wf roots i).1 = (roots.map job.chunks).flatten.flatten := by
  intro roots
  induction roots with
  | nil => simp [runRoots]
  | cons r rs ih =>
    intro i h
    unfold runRoots at h ⊢
    cases hv : (if job.validate then validateVisits (job.visits r) else none) with
    | some e => simp [hv] at h
    | none =>
      simp only [hv] at h ⊢
      cases hem : emit wf (job.chunks r) i with
      | mk acc failed =>
        simp only [hem] at h ⊢
        cases failed with
        | true => simp at h
        | false =>
          simp only [Bool.false_eq_true, if_false] at h ⊢
          have hacc : acc = (job.chunks r).flatten := by simpa [hem] using emit_ok_all wf (job.chunks r) i
          simp [ih (i + (job.chunks r).length) h, hacc]

theorem runRoots_nofault_err (job : Job) : ∀ (roots : List T) (i : Nat),
    (runRoots job {} roots i).2.1 =
      (if job.validate then validateVisits (roots.map job.visits).flatten else none).map Err.val := by
  intro roots
  induction roots with
  | nil => simp [runRoots, validateVisits]
  | cons r rs ih =>
    intro i
    replace ih := ih (i + (job.chunks r).length)
    simp only [runRoots, emit_nofault, Bool.false_eq_true, if_false]
    cases hv : job.validate with
    | false => rwa [hv] at ih
    | true =>
      rw [hv] at ih
      simp only [if_true, List.map_cons, List.flatten_cons, validateVisits_eq_findSome, List.findSome?_append] at ih ⊢
      cases List.findSome? validateVisit (job.visits r) with
      | some e => rfl
      | none => exact ih

theorem runRoots_nofault (job : Job) (hv : job.validate = false) (roots : List T) (i : Nat) :
    ∃ j, runRoots job {} roots i = ((roots.map job.chunks).flatten.flatten, none, j) := by
  have he : (runRoots job {} roots i).2.1 = none := by rw [runRoots_nofault_err, hv]; rfl
  exact ⟨_, Prod.ext (runRoots_ok_all job {} roots i he) (Prod.ext he rfl)⟩

/-- the roots the iterator path gets to see: all of them, or those completed before a generation error -/
def rootsOf (inp : Input) : List T :=
  if (generate inp).err.isNone then (generate inp).roots else (generate inp).done

theorem outputIter_eq (job : Job) (inp : Input) (wf : WFault) :
    outputIter job inp wf =
      ⟨(runRoots job wf (rootsOf inp) 0).1, (runRoots job wf (rootsOf inp) 0).2.1.or ((generate inp).err.map .gen)⟩ := by
  rw [outputIter, rootsOf]
  generalize runRoots job wf _ 0 = r
  obtain ⟨w, _ | e, j⟩ := r <;> rfl

theorem outputIter_writer (job : Job) (inp : Input) (wf : WFault) (h : (outputIter job inp wf).err = none) :
    (outputIter job inp wf).written = ((rootsOf inp).map job.chunks).flatten.flatten := by
  simp only [outputIter_eq, Option.or_eq_none_iff] at h ⊢
  exact runRoots_ok_all job wf (rootsOf inp) 0 h.1

theorem outputIter_generation_error (job : Job) (inp : Input) (wf : WFault) (h : (generate inp).err ≠ none) :
    (outputIter job inp wf).err ≠ none := by
  simp only [outputIter_eq, ne_eq, Option.or_eq_none_iff, Option.map_eq_none_iff]
  exact fun h' => h h'.2

theorem outputIter_nofault_err (job : Job) (inp : Input) :
    (outputIter job inp {}).err =
      ((if job.validate then validateVisits ((rootsOf inp).map job.visits).flatten else none).map Err.val).or
        ((generate inp).err.map .gen) := by
  rw [outputIter_eq, runRoots_nofault_err]

end Gtree
