import Gtree.Generated.Heap.Builder
/-
  `stack.dfs` of the source (stack.go, with push / pop / size over container/list and the methods of node.go it
  calls), translated over the heap (the stack's list is the world component `stk_`, root first).  One call, for every
  heap and every stack of non-nil pointers, pops until the node on top is exactly one level above the new node (`popTo`;
  if there is none, the result is false) and hangs the new node under it, unless it has a child of that name already:
  equally named siblings are one node (`attach`).
-/
namespace Gtree.SrcH
open Gtree Gtree.Go

/-- the open nodes, deepest first: the first that is exactly one level above `lv`, and what is below it -/
def popTo (h : Heap) (lv : Int) : List Ptr → Option (Ptr × List Ptr)
  | [] => none
  | p :: rest => if lv = (h p).hierarchy + 1 then some (p, rest) else popTo h lv rest

/-- the first of the pointers whose node is called `x` (nil if none) -/
def childNamed (h : Heap) (x : Bytes) : List Ptr → Ptr
  | [] => 0
  | c :: cs => if x == (h c).name then c else childNamed h x cs

/-- with the comparison as the model (`splitAtName`, `Store.findChild`) writes it -/
theorem childNamed_cons (h : Heap) (x : Bytes) (c : Ptr) (cs : List Ptr) :
    childNamed h x (c :: cs) = if (h c).name == x then c else childNamed h x cs := by
  rw [childNamed, BEq.comm]

theorem findChildByText_eq (h : Heap) (p : Ptr) (x : Bytes) :
    Node.findChildByText h p x = childNamed h x (h p).children := by
  unfold Node.findChildByText
  generalize (h p).children = cs
  induction cs with
  | nil => rfl
  | cons c cs ih =>
    simp only [Go.forRange, childNamed]
    cases x == (h c).name with
    | true => rfl
    | false => exact ih

/-- what `dfs` leaves when it has found the parent `p` (the open nodes below it, deepest first, are `rest`); the third
    component is `dfs`'s Boolean result, `true` on both paths: `false` is returned only when no parent is found (D3) -/
def attach (h : Heap) (c p : Ptr) (rest : List Ptr) : Heap × List Ptr × Bool :=
  if childNamed h (h c).name (h p).children != 0 then
    (h, rest.reverse ++ [p, childNamed h (h c).name (h p).children], true)
  else
    (Node.setParent (Node.addChild h p c) c p, rest.reverse ++ [p, c], true)

theorem setParent_addChild_apply (h : Heap) (p c : Ptr) (hcp : c ≠ p) (q : Ptr) :
    (Node.setParent (Node.addChild h p c) c p) q =
      if q = c then { (h c) with parent := p }
      else if q = p then { (h p) with children := (h p).children ++ [c] } else h q := by
  simp only [Node.setParent, Node.addChild, Heap.set, if_neg hcp]

/-- `Add` does the two writes in the other order (`setParent`, then `addChild`) -/
theorem addChild_setParent_comm (h : Heap) (p c : Ptr) (hcp : c ≠ p) :
    Node.addChild (Node.setParent h c p) p c = Node.setParent (Node.addChild h p c) c p := by
  funext q
  simp only [Node.setParent, Node.addChild, Heap.set, if_neg hcp, if_neg (Ne.symm hcp)]
  by_cases hq : q = p
  · subst hq; simp [Ne.symm hcp]
  · simp [hq]

/-- the body of the loop of `dfs`: the lambda the translation leaves inside `stack.dfs`, written once more as a
    definition so that the loop can be stated (`dfs_unfold`, by `rfl`) -/
def dfsBody (c : Ptr) : Heap × List Ptr → Go.Ctl (Heap × List Ptr) (Heap × List Ptr × Bool) :=
  fun st_ =>
    match st_ with
    | (h_, stk_) =>
      match (stack.pop h_ stk_) with
      | (stk_, parent) =>
        if (!(Node.isDirectlyUnder h_ c parent)) then Go.Ctl.next (h_, stk_)
        else
          let child := (Node.findChildByText h_ parent (h_ c).name)
          if (child != Go.nilPtr) then
            Go.Ctl.ret (h_, stack.push h_ (stack.push h_ stk_ parent) child, true)
          else
            let h1 := (Node.setParent (Node.addChild h_ parent c) c parent)
            Go.Ctl.ret (h1, stack.push h1 (stack.push (Node.addChild h_ parent c) stk_ parent) c, true)

theorem dfs_unfold (h : Heap) (stk : List Ptr) (c : Ptr) :
    stack.dfs h stk c =
      (match Go.forRange (List.range stk.length) (h, stk) (fun _ st_ => dfsBody c st_) with
       | Go.Ctl.ret r_ => r_
       | Go.Ctl.brk st_ | Go.Ctl.next st_ => (st_.1, st_.2, false)) := by
  have : Int.toNat (stack.size h stk) = stk.length := by simp [stack.size, Go.len]
  rw [← this]; rfl

theorem pop_snoc (h : Heap) (l : List Ptr) (p : Ptr) (hp : p ≠ 0) : stack.pop h (l ++ [p]) = (l, p) := by
  have hnil : Go.nilPtr = 0 := rfl
  simp [stack.pop, Go.listBack, Go.listDropBack, hnil, hp]

theorem pop_nil (h : Heap) : stack.pop h [] = ([], 0) := rfl

theorem dfsBody_snoc (h : Heap) (c p : Ptr) (rest : List Ptr) (hp : p ≠ 0) :
    dfsBody c (h, rest.reverse ++ [p]) =
      if (h c).hierarchy = (h p).hierarchy + 1 then Go.Ctl.ret (attach h c p rest)
      else Go.Ctl.next (h, rest.reverse) := by
  have hunder : Node.isDirectlyUnder h c p = ((h c).hierarchy == (h p).hierarchy + 1) :=
    if_neg fun e => hp (beq_iff_eq.mp e)
  simp only [dfsBody, pop_snoc h _ p hp, hunder, findChildByText_eq, attach, stack.push]
  by_cases hlv : (h c).hierarchy = (h p).hierarchy + 1
  · rw [if_pos hlv, beq_iff_eq.mpr hlv, if_neg (by decide), List.append_assoc, List.append_assoc]
    -- the round returns: its two branches (child found / new last child) are the two branches of `attach`
    exact (apply_ite Go.Ctl.ret _ _ _).symm
  · rw [if_neg hlv, beq_false_of_ne hlv]; rfl

/-- the rounds of `dfs`'s loop, as many as the stack is long: pop until `popTo` finds the parent, then leave the loop
    with `attach` -/
theorem iter_popTo {α : Type} (h : Heap) (c : Ptr) : ∀ (rs : List Ptr) (xs : List α), (∀ p ∈ rs, p ≠ 0) →
    rs.length = xs.length → Go.forRange xs (h, rs.reverse) (fun _ st_ => dfsBody c st_) =
      (match popTo h (h c).hierarchy rs with
       | none => Go.Ctl.next (h, [])
       | some (p, rest) => Go.Ctl.ret (attach h c p rest)) := by
  intro rs
  induction rs with
  | nil => intro xs _ hk; rw [List.eq_nil_of_length_eq_zero hk.symm]; rfl
  | cons p rest ih =>
    intro xs hne hk
    obtain _ | ⟨x, xs⟩ := xs
    · cases hk
    rw [Go.forRange, List.reverse_cons, dfsBody_snoc h c p rest (hne p List.mem_cons_self), popTo]
    by_cases hlv : (h c).hierarchy = (h p).hierarchy + 1
    · rw [if_pos hlv, if_pos hlv]
    · rw [if_neg hlv, if_neg hlv]
      exact ih xs (fun q hq => hne q (List.mem_cons_of_mem _ hq)) (Nat.succ.inj hk)

theorem dfs_spec (h : Heap) (stk : List Ptr) (c : Ptr) (hne : ∀ p ∈ stk, p ≠ 0) :
    stack.dfs h stk c =
      (match popTo h (h c).hierarchy stk.reverse with
       | none => (h, [], false)
       | some (p, rest) => attach h c p rest) := by
  rw [dfs_unfold]
  have := iter_popTo h c stk.reverse (List.range stk.length) (fun p hp => hne p (by simpa using hp)) (by simp)
  rw [List.reverse_reverse] at this
  rw [this]
  cases popTo h (h c).hierarchy stk.reverse with
  | none => rfl
  | some pr => rfl

end Gtree.SrcH
