import Gtree.Lemmas.FSChanges
import Gtree.Lemmas.PathLex
/-
  What MkdirAll / Create do to the finite-map file system, in terms of `lookup`, for keys that are
  '/'-joined lists of good path elements (`GoodList`, `key`; the keys `MkdirAll` goes through: `prefixKeys`).
-/
namespace Gtree

/-- an element the OS does not refuse syntactically -/
def GoodElem (e : Bytes) : Prop := Elem e ∧ (0 : UInt8) ∉ e ∧ e.length ≤ nameMax

/-- a clean relative path, as the list of its elements -/
def GoodList (es : List Bytes) : Prop := es ≠ [] ∧ ∀ e ∈ es, GoodElem e

/-- for the `example`s that show the hypotheses of C06 / C10 can be met -/
theorem goodElem_byte {c : UInt8} (h : c ≠ dot ∧ c ≠ slash ∧ c ≠ 0) : GoodElem [c] :=
  ⟨⟨by simp, by simpa using h.1, by simp [dotdot], by simpa using fun e => h.2.1 e.symm⟩,
    by simpa using fun e => h.2.2 e.symm, by simp [nameMax]⟩

/-- the key under which the file system holds the path with elements `es`: `joinSlash es`, under the name the
    file-system statements use -/
abbrev key (es : List Bytes) : Bytes := joinSlash es

theorem goodList_elems {es : List Bytes} (h : GoodList es) : ∀ e ∈ es, Elem e := fun e he => (h.2 e he).1

theorem splitSlash_key {es : List Bytes} (h : GoodList es) : splitSlash (key es) = es :=
  splitSlash_joinSlash es h.1 (fun e he => (h.2 e he).1.2.2.2)

theorem key_inj {a b : List Bytes} (ha : GoodList a) (hb : GoodList b) (h : key a = key b) : a = b := by
  have := congrArg splitSlash h
  rwa [splitSlash_key ha, splitSlash_key hb] at this

theorem pathRefusal_key {es : List Bytes} (h : GoodList es) : pathRefusal (key es) = none := by
  simp only [pathRefusal, splitSlash_key h, List.any_eq_true, List.contains_eq_mem, decide_eq_true_eq]
  rw [if_neg (fun ⟨e, he, h0⟩ => (h.2 e he).2.1 h0), if_neg (fun ⟨e, he, hl⟩ => Nat.not_lt.mpr (h.2 e he).2.2 hl)]

theorem hasNul_key {es : List Bytes} (h : GoodList es) : hasNul (key es) = false := by
  simpa [hasNul, splitSlash_key h] using fun e he => (h.2 e he).2.1

theorem lastTooLong_key {es : List Bytes} (h : GoodList es) : lastTooLong (key es) = false := by
  unfold lastTooLong
  rw [splitSlash_key h]
  cases hl : es.getLast? with
  | none => rfl
  | some e =>
    simpa using (h.2 e (List.mem_of_getLast? hl)).2.2

theorem key_ne_dot {es : List Bytes} (h : GoodList es) : key es ≠ [dot] := fun hk => by
  have hs := splitSlash_key h
  rw [hk, show splitSlash [dot] = [[dot]] by decide] at hs
  exact (h.2 [dot] (by rw [← hs]; simp)).1.2.1 rfl

theorem isAmbient_key {es : List Bytes} (h : GoodList es) : isAmbient (key es) = false := by
  obtain ⟨e, rest, rfl⟩ := List.exists_cons_of_ne_nil h.1
  have h2 : key (e :: rest) ≠ [slash] := fun hk => by
    have := joinSlash_head_ne_slash (e :: rest) (goodList_elems h) (by simp)
    simp [show joinSlash (e :: rest) = [slash] from hk] at this
  simp [isAmbient, splitSlash_key h, key_ne_dot h, h2, (h.2 e (by simp)).1.2.2.1]

theorem kindOf_key {es : List Bytes} (h : GoodList es) (fs : FS) : fs.kindOf (key es) = fs.lookup (key es) := by
  simp [FS.kindOf, isAmbient_key h]

theorem goodList_snoc {Q : List Bytes} {n : Bytes} (hQ : GoodList Q) (hn : GoodElem n) : GoodList (Q ++ [n]) :=
  ⟨by simp, List.forall_mem_append.mpr ⟨hQ.2, List.forall_mem_singleton.mpr hn⟩⟩

theorem goodList_of_prefix {es x : List Bytes} (h : GoodList es) (hx : x <+: es) (hne : x ≠ []) : GoodList x :=
  ⟨hne, fun e he => h.2 e (hx.subset he)⟩

theorem goodList_take {es : List Bytes} (h : GoodList es) (i : Nat) : GoodList (es.take (i + 1)) :=
  goodList_of_prefix h (List.take_prefix _ _) (by simp [List.take_eq_nil_iff, h.1])

/-- the keys of the non-empty prefixes of `Q`, shortest first: what `MkdirAll (key Q)` goes through -/
def prefixKeys (Q : List Bytes) : List Bytes := (List.range Q.length).map fun i => key (Q.take (i + 1))

theorem mem_prefixKeys {Q : List Bytes} {p : Bytes} : p ∈ prefixKeys Q ↔ ∃ i < Q.length, p = key (Q.take (i + 1)) := by
  simp only [prefixKeys, List.mem_map, List.mem_range, eq_comm]

theorem forall_mem_prefixKeys {Q : List Bytes} {P : Bytes → Prop} :
    (∀ p ∈ prefixKeys Q, P p) ↔ ∀ i < Q.length, P (key (Q.take (i + 1))) := by
  simp only [prefixKeys, List.forall_mem_map, List.mem_range]

theorem mem_prefixKeys_of_prefix {Q x : List Bytes} (hx : x <+: Q) (hne : x ≠ []) : key x ∈ prefixKeys Q := by
  obtain ⟨n, hn⟩ := Nat.exists_eq_add_one_of_ne_zero (mt List.length_eq_zero_iff.mp hne)
  refine mem_prefixKeys.mpr ⟨n, Nat.lt_of_succ_le (Nat.le_trans (Nat.le_of_eq hn.symm) hx.length_le), ?_⟩
  rw [← hn, ← List.prefix_iff_eq_take.mp hx]

theorem exists_of_mem_prefixKeys {Q : List Bytes} (hQ : ∀ e ∈ Q, GoodElem e) {p : Bytes} (hp : p ∈ prefixKeys Q) :
    ∃ x, GoodList x ∧ x <+: Q ∧ p = key x := by
  obtain ⟨i, hi, rfl⟩ := mem_prefixKeys.mp hp
  exact ⟨_, goodList_take ⟨List.ne_nil_of_length_pos (Nat.zero_lt_of_lt hi), hQ⟩ i, List.take_prefix _ _, rfl⟩

theorem prefixKeys_snoc (Q : List Bytes) (n : Bytes) : prefixKeys (Q ++ [n]) = prefixKeys Q ++ [key (Q ++ [n])] := by
  rw [prefixKeys, List.length_append, List.length_singleton, List.range_succ, List.map_append, List.map_singleton,
    List.take_length_add_append]
  congr 1
  exact List.map_congr_left fun i hi => by rw [List.take_append_of_le_length (List.mem_range.mp hi)]

theorem prefixKeys_dropLast {es : List Bytes} (h : es ≠ []) : prefixKeys es = prefixKeys es.dropLast ++ [key es] := by
  have := prefixKeys_snoc es.dropLast (es.getLast h)
  rwa [List.dropLast_concat_getLast] at this

theorem prefixesOf_key_elem {es : List Bytes} (hne : es ≠ []) (h : ∀ e ∈ es, Elem e) :
    prefixesOf (key es) = prefixKeys es := by
  unfold prefixesOf
  have hhead : ((key es).head? == some slash) = false := by
    have := joinSlash_head_ne_slash es h hne
    simpa using this
  have hf : (splitSlash (key es)).filter (fun e => !e.isEmpty) = es := by
    rw [splitSlash_joinSlash es hne (fun e he => (h e he).2.2.2)]
    exact List.filter_eq_self.mpr fun e he => by simpa using (h e he).1
  simp only [hhead, hf, Bool.false_eq_true, if_false, prefixKeys]

theorem prefixesOf_key {es : List Bytes} (h : GoodList es) : prefixesOf (key es) = prefixKeys es :=
  prefixesOf_key_elem h.1 (goodList_elems h)

/-- every existing path whose key is a `GoodList` has all of its ancestors present (a real file system guarantees more:
    they are directories) -/
def FS.Closed (fs : FS) : Prop :=
  ∀ es, GoodList es → fs.lookup (key es) ≠ none → ∀ i < es.length, fs.lookup (key (es.take (i + 1))) ≠ none

theorem FS.Closed.prefix {fs : FS} (hc : fs.Closed) {es : List Bytes} (hg : GoodList es) (h : fs.lookup (key es) ≠ none) :
    ∀ p ∈ prefixKeys es, fs.lookup p ≠ none :=
  forall_mem_prefixKeys.mpr (hc es hg h)

/-- absent or a directory: `MkdirAll` can pass through it -/
def notFile (fs : FS) (p : Bytes) : Prop := ∀ n, fs.lookup p ≠ some (.file n)

theorem mkdirAll_go_spec : ∀ (l : List Bytes) (fs : FS), (∀ q ∈ l, pathRefusal q = none ∧ isAmbient q = false) →
    (∀ q ∈ l, notFile fs q) →
    (FS.mkdirAll.go fs l).2 = none ∧
    ∀ p, (FS.mkdirAll.go fs l).1.lookup p = (if fs.lookup p = none ∧ p ∈ l then some Kind.dir else fs.lookup p) := by
  intro l
  induction l with
  | nil => simp [FS.mkdirAll.go]
  | cons q rest ih =>
    intro fs hok hnf
    replace ih := fun fs' => ih fs' (fun x hx => hok x (List.mem_cons_of_mem _ hx))
    simp only [FS.mkdirAll.go, (hok q List.mem_cons_self).1, FS.kindOf, (hok q List.mem_cons_self).2, Bool.false_eq_true, if_false]
    cases hl : fs.lookup q with
    | some k =>
      cases k with
      | file n => exact absurd hl (hnf q List.mem_cons_self n)
      | dir =>
        obtain ⟨h1, h2⟩ := ih fs (fun x hx => hnf x (List.mem_cons_of_mem _ hx))
        refine ⟨h1, fun p => ?_⟩
        rw [h2 p]
        by_cases hp : fs.lookup p = none
        · have hne : p ≠ q := fun h => by simp [h, hl] at hp
          simp [hp, hne]
        · simp [hp]
    | none =>
      obtain ⟨h1, h2⟩ := ih (fs ++ [(q, Kind.dir)]) (fun x hx n => by
        rw [lookup_snoc]
        split
        · simp
        · exact hnf x (List.mem_cons_of_mem _ hx) n)
      refine ⟨h1, fun p => ?_⟩
      rw [h2 p, lookup_snoc]
      by_cases hlp : fs.lookup p = none
      · by_cases hpe : q = p
        · simp [hlp, hpe]
        · simp [hlp, hpe, Ne.symm hpe]
      · simp [hlp]

theorem mkdirAll_spec (fs : FS) (es : List Bytes) (hg : GoodList es) (hnf : ∀ q ∈ prefixKeys es, notFile fs q) :
    (fs.mkdirAll (key es)).2 = none ∧
    ∀ p, (fs.mkdirAll (key es)).1.lookup p =
      (if fs.lookup p = none ∧ p ∈ prefixKeys es then some Kind.dir else fs.lookup p) := by
  have := mkdirAll_go_spec (prefixKeys es) fs
    (fun q hq => by
      obtain ⟨x, hx, _, rfl⟩ := exists_of_mem_prefixKeys hg.2 hq
      exact ⟨pathRefusal_key hx, isAmbient_key hx⟩) hnf
  simpa only [FS.mkdirAll, isAmbient_key hg, Bool.false_eq_true, if_false, prefixesOf_key hg] using this

theorem create_spec (fs : FS) (es : List Bytes) (hg : GoodList es)
    (hnd : fs.lookup (key es) ≠ some Kind.dir) (hpar : ∀ q ∈ prefixKeys es.dropLast, fs.lookup q = some Kind.dir) :
    (fs.create (key es)).2 = none ∧
    ∀ p, (fs.create (key es)).1.lookup p = (if p = key es then some (Kind.file 0) else fs.lookup p) := by
  have hbad : List.findSome? fs.parentProblem (prefixesOf (key es)).dropLast = none := by
    rw [prefixesOf_key hg, prefixKeys_dropLast hg.1, List.dropLast_concat, List.findSome?_eq_none_iff]
    intro q hq
    obtain ⟨x, hx, _, rfl⟩ := exists_of_mem_prefixKeys (fun e he => hg.2 e (List.dropLast_subset es he)) hq
    rw [FS.parentProblem, kindOf_key hx, hpar _ hq]
  have hself : (fs.create (key es)).2 = none ∧ (fs.create (key es)).1.lookup (key es) = some (.file 0) := by
    simp only [FS.create, pathRefusal_key hg, hbad, kindOf_key hg]
    cases hl : fs.lookup (key es) with
    | none => exact ⟨rfl, by simp [lookup_snoc, hl]⟩
    | some k =>
      cases k with
      | dir => exact absurd hl hnd
      | file n => exact ⟨rfl, by rw [lookup_replace, if_pos ⟨rfl, by simp [hl]⟩]⟩
  refine ⟨hself.1, fun p => ?_⟩
  by_cases hp : p = key es
  · rw [if_pos hp, hp]; exact hself.2
  · rw [if_neg hp]; exact create_changes fs _ p hp

end Gtree
