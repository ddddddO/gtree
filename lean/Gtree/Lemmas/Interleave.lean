/-
  Interleavings of several lists, as the massive mode's workers interleave their operations.
-/
namespace Gtree

/-- `r` is an interleaving of the lists `ls`: every list's elements in their order, all of them -/
inductive Interleave {α : Type} : List (List α) → List α → Prop where
  | done (ls : List (List α)) : (∀ l ∈ ls, l = []) → Interleave ls []
  | step (pre post : List (List α)) (l : List α) (x : α) (r : List α) :
      Interleave (pre ++ l :: post) r → Interleave (pre ++ (x :: l) :: post) (x :: r)

theorem Interleave.perm {α : Type} {ls : List (List α)} {r : List α} (h : Interleave ls r) : r.Perm ls.flatten := by
  induction h with
  | done ls hnil => rw [List.flatten_eq_nil_iff.mpr hnil]
  | step pre post l x r _ ih =>
    simp only [List.flatten_append, List.flatten_cons, List.cons_append] at ih ⊢
    exact (ih.cons x).trans List.perm_middle.symm

/-- wherever `y` stands in `r`, it stands in one of the lists, and everything before it there is before it in `r` -/
theorem Interleave.before {α : Type} {ls : List (List α)} {r : List α} (h : Interleave ls r) :
    ∀ (a : List α) (y : α) (b : List α), r = a ++ y :: b →
      ∃ l ∈ ls, ∃ la lb, l = la ++ y :: lb ∧ ∀ x ∈ la, x ∈ a := by
  induction h with
  | done ls _ => intro a y b e; cases a <;> simp at e
  | step pre post l x r _ ih =>
    intro a y b e
    cases a with
    | nil =>
      simp only [List.nil_append, List.cons.injEq] at e
      obtain ⟨rfl, rfl⟩ := e
      exact ⟨x :: l, by simp, [], l, rfl, by simp⟩
    | cons a0 a' =>
      simp only [List.cons_append, List.cons.injEq] at e
      obtain ⟨rfl, e'⟩ := e
      obtain ⟨l', hl', la, lb, hsplit, hsub⟩ := ih a' y b e'
      have hsub' : ∀ z ∈ la, z ∈ x :: a' := fun z hz => List.mem_cons_of_mem _ (hsub z hz)
      rcases List.mem_append.mp hl' with h1 | h1
      · exact ⟨l', by simp [h1], la, lb, hsplit, hsub'⟩
      · rcases List.mem_cons.mp h1 with rfl | h2
        · exact ⟨x :: l', by simp, x :: la, lb, by rw [hsplit]; rfl, List.forall_mem_cons.mpr ⟨by simp, hsub'⟩⟩
        · exact ⟨l', by simp [h2], la, lb, hsplit, hsub'⟩

end Gtree
