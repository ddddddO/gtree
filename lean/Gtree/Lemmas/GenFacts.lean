import Gtree.Generated.Facts
import Gtree.Lemmas.Lookup
/-
  The row loops of the four root generators (rootGeneratorSimple.generate and generateIter, rootGeneratorPipeline.worker,
  the tinywasm rootGenerator.generate) — tests, calls, continues and returns in source order, as the fact extractor found
  them on this run — against the hand-written expectation; and that the four share one row step (`coreStep`), the one
  the model's `genStep` / `addItem` was written from.
-/
namespace Gtree

def expectedGenSkeleton : List (String × List String) :=
  [("rootGenerator.generate", ["for:rg.scanner.Scan()", "Scan", "generate", "Text", "next", "if:err != nil", "if:rerr != nil", "Err", "return", "return", "if:currentNode == nil", "continue", "if:currentNode.isRoot()", "isRoot", "reset", "append", "newStack", "push", "continue", "if:stack == nil", "return", "errNilStack", "if:!stack.dfs(currentNode)", "dfs", "return", "inputFormatError:row: rg.scanner.Text()", "Text"]),
   ("rootGeneratorPipeline.worker", ["range:strings.Split(strings.TrimSuffix(block, \"\\n\"), \"\\n\")", "Split", "generate", "next", "if:err != nil", "sendErr", "return", "if:currentNode == nil", "continue", "if:currentNode.isRoot()", "isRoot", "push", "continue", "if:root == nil", "sendErr", "errNilStack", "return", "if:!nodes.dfs(currentNode)", "dfs", "sendErr", "inputFormatError:row: row", "return"]),
   ("rootGeneratorSimple.generate", ["for:rg.scanner.Scan()", "Scan", "generate", "Text", "next", "if:err != nil", "if:rerr != nil", "Err", "return", "return", "if:currentNode == nil", "continue", "if:currentNode.isRoot()", "isRoot", "reset", "append", "newStack", "push", "continue", "if:stack == nil", "return", "errNilStack", "if:!stack.dfs(currentNode)", "dfs", "return", "inputFormatError:row: rg.scanner.Text()", "Text"]),
   ("rootGeneratorSimple.generateIter", ["for:rg.scanner.Scan()", "Scan", "generate", "Text", "next", "if:err != nil", "if:rerr != nil", "Err", "yield", "return", "if:currentNode == nil", "continue", "if:currentNode.isRoot()", "isRoot", "reset", "if:root != nil", "if:!yield(root, nil)", "yield", "return", "newStack", "push", "continue", "if:stack == nil", "yield", "errNilStack", "return", "if:!stack.dfs(currentNode)", "dfs", "yield", "inputFormatError:row: rg.scanner.Text()", "Text", "return"])]

/-- what a token is for the row step (the error literal without its argument) -/
def coreToken (t : String) : String :=
  if t == "inputFormatError:row: rg.scanner.Text()" || t == "inputFormatError:row: row" then "inputFormatError" else t

def coreStep : List String :=
  ["generate", "next", "if:err != nil", "if:currentNode == nil", "continue", "if:currentNode.isRoot()", "isRoot", "push",
   "continue", "errNilStack", "dfs", "inputFormatError"]

/-- the tokens of `coreStep` that occur in `l`, in order.  Everything else is dropped (`return`, `sendErr`, `yield`, the
    nil tests on stack and root, the `if` around `dfs`): the control structure around the shared tokens is compared by
    `generator_loops_are_as_expected` alone. -/
def coreOf (l : List String) : List String := (l.map coreToken).filter (fun t => coreStep.contains t)

theorem generator_loops_are_as_expected : Facts.genSkeleton = expectedGenSkeleton := rfl

theorem generators_share_one_row_step :
    Facts.genSkeleton.length = 4 ∧ Facts.genSkeleton.all (fun e => coreOf e.2 == coreStep) = true := by decide +kernel

theorem coreOf_lookup {k : String} (hk : lookupL k Facts.genSkeleton ≠ []) :
    coreOf (lookupL k Facts.genSkeleton) = coreStep :=
  eq_of_beq (lookupL_of_all (p := fun l => coreOf l == coreStep) generators_share_one_row_step.2 hk)

theorem format_error_names_the_row :
    (lookupL "rootGeneratorSimple.generate" Facts.genSkeleton).contains "inputFormatError:row: rg.scanner.Text()" = true ∧
    (lookupL "rootGeneratorSimple.generateIter" Facts.genSkeleton).contains "inputFormatError:row: rg.scanner.Text()" = true ∧
    (lookupL "rootGenerator.generate" Facts.genSkeleton).contains "inputFormatError:row: rg.scanner.Text()" = true ∧
    (lookupL "rootGeneratorPipeline.worker" Facts.genSkeleton).contains "inputFormatError:row: row" = true := by decide +kernel

end Gtree
