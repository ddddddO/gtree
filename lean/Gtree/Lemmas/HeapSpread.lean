import Gtree.Generated.Heap.Spread
import Gtree.Lemmas.HeapFold
/-
  The text printer of the source (simple_tree_spreader.go: `defaultSpreaderSimple.spread`, `spreadBranch`),
  translated over the heap with the caller's writer as a fault oracle: on every heap that holds a forest it issues one
  `Write` per node in pre-order — the node's row and a line feed — stops at the first `Write` that fails and returns
  that error.
-/
namespace Gtree.SrcH
open Gtree Gtree.Go

/-- write the chunks one after the other until a write fails -/
def writeAll : Writer → List Bytes → Writer × Option Src.Err
  | w, [] => (w, none)
  | w, c :: cs =>
    match fmt_Fprint w c with
    | (w', some e) => (w', some e)
    | (w', none) => writeAll w' cs

theorem writeAll_map {α : Type} (g : α → Bytes) : ∀ (xs : List α) (w : Writer),
    writeAll w (xs.map g) = runAll (fun x w => fmt_Fprint w (g x)) xs w
  | [], w => rfl
  | x :: xs, w => by
    rw [List.map_cons, writeAll, runAll]
    rcases fmt_Fprint w (g x) with ⟨w', _ | e⟩
    · exact writeAll_map g xs w'
    · rfl

theorem writeAll_emit : ∀ (cs : List Bytes) (w : Writer),
    (writeAll w cs).1.out = w.out ++ (emit w.fault cs w.calls).1 ∧
    (writeAll w cs).2.isSome = (emit w.fault cs w.calls).2 ∧ (writeAll w cs).1.fault = w.fault := by
  intro cs
  induction cs with
  | nil => intro w; simp [writeAll, emit]
  | cons c cs ih =>
    intro w
    simp only [writeAll, emit, fmt_Fprint]
    cases hf : w.fault.failAt == some w.calls
    · replace ih := ih { w with calls := w.calls + 1, out := w.out ++ c }
      simp only [Bool.false_eq_true, if_false]
      rcases he : emit w.fault cs (w.calls + 1) with ⟨rest, failed⟩
      simp only [he] at ih
      exact ⟨by rw [ih.1]; simp, ih.2.1, ih.2.2⟩
    · simp

/-- the body of the loop of `spreadBranch` over the children -/
def spreadBody (ds : defaultSpreaderSimple) (h : Heap) (fuel : Nat) :
    Ptr → Writer → Go.Ctl Writer (Option (Writer × Option Src.Err)) :=
  fun child st_ =>
    match (defaultSpreaderSimple.spreadBranch fuel h st_ ds child) with
    | none => Go.Ctl.ret none
    | some r_ =>
      match r_ with
      | (w_, err) => if (Option.isSome err) then Go.Ctl.ret (some (w_, err)) else Go.Ctl.next w_

/-- the line `spreadBranch` writes for a node -/
def lineAt (h : Heap) (p : Ptr) : Bytes :=
  if Node.isRoot h p then (h p).name ++ [0x0A] else Node.branch h p ++ [0x20] ++ (h p).name ++ [0x0A]

theorem spreadBody_eq (ds : defaultSpreaderSimple) (h : Heap) (fuel : Nat) :
    spreadBody ds h fuel = stepBody fun w p => defaultSpreaderSimple.spreadBranch fuel h w ds p := by
  funext c w
  rw [spreadBody, stepBody]
  rcases defaultSpreaderSimple.spreadBranch fuel h w ds c with _ | r <;> rfl

theorem spreadBranch_unfold (fuel : Nat) (h : Heap) (w : Writer) (ds : defaultSpreaderSimple) (cur : Ptr) :
    defaultSpreaderSimple.spreadBranch (fuel + 1) h w ds cur =
      (match fmt_Fprint w (lineAt h cur) with
       | (w_, err) =>
         if (Option.isSome err) then some (w_, err)
         else
           match Go.forRange (h cur).children w_ (spreadBody ds h fuel) with
           | Go.Ctl.ret r_ => r_
           | Go.Ctl.brk st_ | Go.Ctl.next st_ => some (st_, none)) := by
  unfold lineAt
  -- `rw [defaultSpreaderSimple.spreadBranch]` would have Lean derive the equations of the translated function first
  change (if (!Node.isRoot h cur) = true then _ else _) = _
  cases Node.isRoot h cur <;> rfl

theorem lineAt_visitOf (h : Heap) (p : Ptr) : lineAt h p = lineOf (visitOf h p) := by
  have hroot : Node.isRoot h p = ((h p).hierarchy.toNat == 1) := by
    rw [Node.isRoot, Bool.eq_iff_iff, beq_iff_eq, beq_iff_eq, Src.rootHierarchyNum]
    omega
  unfold lineAt lineOf Visit.row visitOf
  rw [hroot]
  cases ((h p).hierarchy.toNat == 1) <;> simp [sp, lf]

theorem lineAt_visitAt (h : Heap) (p : Ptr) (lvl : Nat) (hl : (h p).hierarchy = (lvl : Int)) :
    lineAt h p = lineOf (visitAt h p lvl) := by
  rw [visitAt_level h p lvl hl, lineAt_visitOf]

theorem spreadBranch_fold (ds : defaultSpreaderSimple) (h : Heap) (fuel : Nat) :
    (fun w p => defaultSpreaderSimple.spreadBranch fuel h w ds p) = foldNodes (fun p w => fmt_Fprint w (lineAt h p)) h fuel := by
  induction fuel with
  | zero => rfl
  | succ fuel ih =>
    funext w p
    rw [spreadBranch_unfold, spreadBody_eq, foldNodes, ← ih]
    rcases fmt_Fprint w (lineAt h p) with ⟨w1, _ | e⟩
    · simp only [Option.isSome_none, Bool.false_eq_true, if_false]
      generalize forRange (h p).children w1 _ = y
      rcases y with s | s | r <;> rfl
    · rfl

theorem runAll_print (h : Heap) (ps : List Ptr) (w : Writer) :
    runAll (fun p w => fmt_Fprint w (lineAt h p)) ps w = writeAll w ((ps.map (visitOf h)).map lineOf) := by
  rw [List.map_map, writeAll_map]
  simp only [lineAt_visitOf, Function.comp]

theorem spread_node (ds : defaultSpreaderSimple) (h : Heap) (t : T) (w : Writer) (p par : Ptr) (lvl fuel : Nat)
    (hr : Repr h t p par lvl) (hf : t.size ≤ fuel) :
    defaultSpreaderSimple.spreadBranch fuel h w ds p = some (writeAll w ((readNode h t p lvl).map lineOf)) := by
  rw [← ptrs_visits h t p par lvl hr, ← runAll_print, ← fold_node _ h t w p par lvl fuel hr hf, ← spreadBranch_fold ds]

theorem spread_kids (ds : defaultSpreaderSimple) (h : Heap) : ∀ (ts : List T) (w : Writer) (cs : List Ptr) (par : Ptr)
    (lvl fuel : Nat), ReprKids h ts cs par lvl → sizeList ts ≤ fuel →
    Nonempty (Go.forRange cs w (spreadBody ds h fuel) =
      (match writeAll w ((readKids h ts cs lvl).map lineOf) with
       | (w', some e) => Go.Ctl.ret (some (w', some e))
       | (w', none) => Go.Ctl.next w')) := by
  intro ts w cs par lvl fuel hr hf
  have := fold_kids (fun p w => fmt_Fprint w (lineAt h p)) h ts w cs par lvl fuel hr hf
  rw [← spreadBranch_fold ds, ← spreadBody_eq, runAll_print, ptrsKids_visits h ts cs par lvl hr] at this
  refine ⟨this.trans ?_⟩
  rcases writeAll w ((readKids h ts cs lvl).map lineOf) with ⟨w', _ | e⟩ <;> rfl

theorem spread_heap (ds : defaultSpreaderSimple) (h : Heap) (ts : List T) (w : Writer) (rs : List Ptr) (fuel : Nat)
    (hr : ReprRoots h ts rs) (hf : sizeList ts ≤ fuel) :
    defaultSpreaderSimple.spread fuel h w ds rs = some (writeAll w ((readKids h ts rs 1).map lineOf)) := by
  obtain ⟨hrun⟩ := spread_kids ds h ts w rs 0 1 fuel ((ReprRoots_iff_kids h ts rs).mp hr) hf
  -- the translated `spread` with the lambda of its loop folded into `spreadBody` (by `rfl`): `rw [hrun]` needs that form
  show (match Go.forRange rs w (spreadBody ds h fuel) with
    | Go.Ctl.ret r_ => r_
    | Go.Ctl.brk st_ | Go.Ctl.next st_ => some (st_, none)) = _
  rw [hrun]
  rcases writeAll w ((readKids h ts rs 1).map lineOf) with ⟨w', _ | e⟩ <;> rfl

end Gtree.SrcH
