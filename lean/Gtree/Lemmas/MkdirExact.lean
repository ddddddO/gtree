import Gtree.Lemmas.VerifyAfter
import Gtree.Lemmas.MkPlan
/-
  Mkdir over the model file system, for forests of good names: the loop over the roots runs the forest's
  operations, the roots being absent means every node path is absent (in a closed file system), and
  the result is exact.
-/
namespace Gtree

theorem mkdirRoots_go_forest (f : Fmt) (exts : List Bytes) (ts : List Bytes) (hts : GoodList ts) :
    ∀ (roots : List T) (fs : FS), AllGoodL roots →
      mkdirRoots.go (key ts) exts fs (roots.map (growRoot f))
        = ((mkKids exts ts fs roots).1, (mkKids exts ts fs roots).2.map MkErr.os) := by
  intro roots fs hg
  rw [mkdirRoots_go_runOps, ops_forest f exts ts hts roots hg, mkKids_eq_runE, runE]
  rfl

theorem anyRootExists_growRoot (f : Fmt) (fs : FS) (target : Bytes) (roots : List T) :
    anyRootExists fs target (roots.map (growRoot f)) = roots.any (fun k => rootExists fs target k.name) := by
  rw [anyRootExists, List.any_map]
  congr 1
  funext k
  cases k; rfl

theorem rootExists_eq_false_iff (fs : FS) (target p : Bytes) :
    rootExists fs target p = false ↔ fs.stat (filepathJoin [target, p]) = .error .notExist := by
  unfold rootExists
  cases fs.stat (filepathJoin [target, p]) with
  | ok k => simp
  | error e => cases e <;> simp

theorem Fresh.of_closed (f : Fmt) (exts : List Bytes) {ts : List Bytes} {roots : List T} {fs : FS}
    (hts : GoodList ts) (hg : AllGoodL roots) (hd : DistinctL roots) (hc : fs.Closed)
    (hnf : ∀ i < ts.length, notFile fs (key (ts.take (i + 1))))
    (hnone : anyRootExists fs (key ts) (roots.map (growRoot f)) = false) : Fresh exts ts roots fs := by
  refine ⟨hts, hg, hd, forall_mem_prefixKeys.mpr hnf, fun e he => ?_⟩
  -- were the node there, so would its root be (`fs` is closed), and the root's exists-check would not have passed
  obtain ⟨hge, k, hk, tail, hshape⟩ := pathsOf_shape exts roots ts hts hg e he
  have hpre : ts ++ [k.name] <+: e.1 := ⟨tail, by rw [hshape]; simp⟩
  have hgk := goodList_of_prefix hge hpre (by simp)
  apply Decidable.byContradiction
  intro hl
  have hroot := hc.prefix hge hl _ (mem_prefixKeys_of_prefix hpre hgk.1)
  rw [anyRootExists_growRoot, List.any_eq_false] at hnone
  have hre := (rootExists_eq_false_iff ..).mp (Bool.not_eq_true _ ▸ hnone k hk)
  rw [join_root ts hts (hgk.2 k.name (by simp))] at hre
  exact stat_ne_notExist fs hc _ hgk hroot hre

theorem mkdirRoots_exact (f : Fmt) {exts : List Bytes} {ts : List Bytes} {roots : List T} {fs : FS}
    (h : Fresh exts ts roots fs) (hnone : anyRootExists fs (key ts) (roots.map (growRoot f)) = false) :
    (mkdirRoots fs (key ts) exts (roots.map (growRoot f))).2 = none ∧
    Exact exts ts roots fs (mkdirRoots fs (key ts) exts (roots.map (growRoot f))).1 := by
  obtain ⟨s, hrun, hex⟩ := h.schedule_exact _ (fun _ => Iff.rfl) (ordered_opsKids exts ts roots)
  simp only [mkdirRoots, hnone, Bool.false_eq_true, if_false]
  rw [mkdirRoots_go_runOps, ops_forest f exts ts h.goodQ roots h.good, ← runE, hrun]
  exact ⟨rfl, hex⟩

end Gtree
