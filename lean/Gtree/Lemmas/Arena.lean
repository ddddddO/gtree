import Gtree.Model.Programmable
import Gtree.Lemmas.Distinct
/-
  The arena invariant of NewRoot / Add: children have larger ids than their parent, and the children of one node have
  pairwise different names.  Hence every tree handed to a From-Root entry point has pairwise distinct sibling names at
  every level (`DistinctT`), whatever sequence of NewRoot / Add calls built it.  Last part (`Store.restamp`): the tree
  read from the arena and the root check do not depend on the index stamps or on the counter.
-/
namespace Gtree

/-- the name of node `c` (empty for an id that is not allocated) -/
def Store.nameOf (s : Store) (c : Nat) : Bytes :=
  match s.get? c with
  | some n => n.name
  | none => []

/-- the arena invariant -/
structure Store.WF (s : Store) : Prop where
  /-- children are allocated, and later than their parent: the child lists describe a forest -/
  bound : ∀ i p, s.get? i = some p → ∀ c ∈ p.children, i < c ∧ c < s.nodes.length
  /-- `Add` returns the existing child of a name instead of making a second one -/
  names : ∀ i p, s.get? i = some p → (p.children.map s.nameOf).Nodup

theorem Store.wf_empty : Store.WF {} :=
  ⟨fun i p h => by simp [Store.get?] at h, fun i p h => by simp [Store.get?] at h⟩

theorem Store.toT_name (s : Store) (fuel id : Nat) : (s.toT (fuel + 1) id).name = s.nameOf id := by
  simp only [Store.toT, Store.nameOf]
  cases s.get? id <;> simp [T.name]

theorem Store.toT_distinct (s : Store) (h : s.WF) : ∀ (fuel id : Nat), s.nodes.length + 1 ≤ fuel + id →
    DistinctT (s.toT fuel id) := by
  intro fuel
  induction fuel with
  | zero => intro _ _; simp [Store.toT, DistinctT, DistinctL]
  | succ fuel ih =>
    intro id hf
    rw [Store.toT]
    cases hg : s.get? id with
    | none => simp [DistinctT, DistinctL]
    | some n =>
      have hid : id < s.nodes.length := (List.getElem?_eq_some_iff.mp hg).1
      -- with no fuel left, `hf` would put `id` beyond the arena
      obtain ⟨f', rfl⟩ : ∃ f', fuel = f' + 1 := Nat.exists_eq_add_one_of_ne_zero fun e => by
        rw [e, Nat.zero_add, Nat.add_comm 1 id] at hf
        exact Nat.not_succ_le_self _ (Nat.le_trans hf hid)
      rw [DistinctT, distinctL_iff, List.map_map, show T.name ∘ s.toT (f' + 1) = s.nameOf from funext (s.toT_name f')]
      refine ⟨h.names id n hg, fun t ht => ?_⟩
      obtain ⟨c, hc, rfl⟩ := List.mem_map.mp ht
      -- the child's id is larger, so one unit of fuel less is enough for it
      refine ih c (Nat.le_trans hf ?_)
      rw [Nat.add_assoc, Nat.add_comm 1 id]
      exact Nat.add_le_add_left (h.bound id n hg c hc).1 _

theorem Store.tree_distinct (s : Store) (h : s.WF) (id : Nat) : DistinctT (s.tree id) :=
  s.toT_distinct h _ id (Nat.le_add_right _ _)

theorem getElem?_snoc {α} (l : List α) (x : α) (i : Nat) :
    (l ++ [x])[i]? = if i < l.length then l[i]? else if i = l.length then some x else none := by
  rw [List.getElem?_append]
  by_cases h1 : i < l.length
  · rw [if_pos h1, if_pos h1]
  · rw [if_neg h1, if_neg h1]
    by_cases h2 : i = l.length
    · simp [h2]
    · rw [if_neg h2, List.getElem?_eq_none_iff, List.length_singleton]
      exact Nat.sub_pos_of_lt (Nat.lt_of_le_of_ne (Nat.not_lt.mp h1) (Ne.symm h2))

theorem Store.get?_newRoot (s : Store) (name : Bytes) (i : Nat) :
    (s.newRoot name).1.get? i =
      if i < s.nodes.length then s.get? i
      else if i = s.nodes.length then some { name := name, hierarchy := 1, index := s.idxCounter + 1, children := [] }
      else none :=
  getElem?_snoc s.nodes _ i

theorem Store.length_newRoot (s : Store) (name : Bytes) : (s.newRoot name).1.nodes.length = s.nodes.length + 1 := by
  simp [Store.newRoot]

theorem Store.get?_newRoot_some {s : Store} {name : Bytes} {i : Nat} {n : PNode}
    (h : (s.newRoot name).1.get? i = some n) :
    (i < s.nodes.length ∧ s.get? i = some n) ∨
    (i = s.nodes.length ∧ n = { name := name, hierarchy := 1, index := s.idxCounter + 1, children := [] }) := by
  rw [s.get?_newRoot] at h
  by_cases h1 : i < s.nodes.length
  · exact .inl ⟨h1, by rwa [if_pos h1] at h⟩
  · by_cases h2 : i = s.nodes.length
    · rw [if_neg h1, if_pos h2] at h
      exact .inr ⟨h2, (Option.some.inj h).symm⟩
    · rw [if_neg h1, if_neg h2] at h; cases h

theorem Store.add_old (s : Store) (pid : Nat) (name : Bytes) (p : PNode) (c : Nat)
    (hp : s.get? pid = some p) (hc : s.findChild p name = some c) : s.add pid name = (s, some c) := by
  simp only [Store.add, hp, hc]

theorem Store.wf_newRoot (s : Store) (h : s.WF) (name : Bytes) : (s.newRoot name).1.WF := by
  have hget := s.get?_newRoot name
  have hlen := s.length_newRoot name
  have hname : ∀ c, c < s.nodes.length → (s.newRoot name).1.nameOf c = s.nameOf c := by
    intro c hc
    simp only [Store.nameOf, hget c, hc, if_true]
  refine ⟨fun i p hp => ?_, fun i p hp => ?_⟩
  · rw [hlen]
    rcases Store.get?_newRoot_some hp with ⟨-, hp⟩ | ⟨rfl, rfl⟩
    · exact fun c hc => (h.bound i p hp c hc).imp_right Nat.lt_succ_of_lt
    · simp
  · rcases Store.get?_newRoot_some hp with ⟨-, hp⟩ | ⟨rfl, rfl⟩
    · rw [List.map_congr_left fun c hc => hname c (h.bound i p hp c hc).2]
      exact h.names i p hp
    · simp

theorem Store.findChild_none (s : Store) (p : PNode) (name : Bytes) (h : s.findChild p name = none) :
    ∀ c ∈ p.children, ∀ cn, s.get? c = some cn → cn.name ≠ name := by
  intro c hc cn hcn
  simp only [Store.findChild] at h
  have := List.find?_eq_none.mp h c hc
  simp only [hcn, Bool.not_eq_true] at this
  exact ne_of_beq_false this

/-- the store after `Add` created a new child -/
def Store.added (s : Store) (pid : Nat) (p : PNode) (name : Bytes) : Store :=
  { nodes := (s.nodes ++ [({ name := name, hierarchy := p.hierarchy + 1, index := s.idxCounter + 1, children := [] } : PNode)]).mapIdx
      (fun (i : Nat) (n : PNode) => if i == pid then { n with children := n.children ++ [s.nodes.length] } else n),
    idxCounter := s.idxCounter + 1 }

theorem Store.length_added (s : Store) (pid : Nat) (p : PNode) (name : Bytes) :
    (s.added pid p name).nodes.length = s.nodes.length + 1 := by
  rw [Store.added, List.length_mapIdx, List.length_append, List.length_singleton]

theorem Store.add_new (s : Store) (pid : Nat) (p : PNode) (name : Bytes)
    (hp : s.get? pid = some p) (hc : s.findChild p name = none) :
    s.add pid name = (s.added pid p name, some s.nodes.length) := by
  simp only [Store.add, hp, hc, Store.added]

theorem Store.get?_added (s : Store) (pid : Nat) (p : PNode) (name : Bytes) (hp : s.get? pid = some p) (i : Nat) :
    (s.added pid p name).get? i =
      if i < s.nodes.length then
        (if i = pid then some { p with children := p.children ++ [s.nodes.length] } else s.get? i)
      else if i = s.nodes.length then
        some { name := name, hierarchy := p.hierarchy + 1, index := s.idxCounter + 1, children := [] }
      else none := by
  have hpid : pid < s.nodes.length := (List.getElem?_eq_some_iff.mp hp).1
  simp only [Store.added, Store.get?, List.getElem?_mapIdx, getElem?_snoc]
  by_cases hi : i < s.nodes.length
  · simp only [hi, if_true]
    by_cases he : i = pid
    · subst he
      rw [show s.nodes[i]? = some p from hp]
      simp
    · cases s.nodes[i]? <;> simp [he]
  · simp only [hi, if_false]
    by_cases he : i = s.nodes.length
    · subst he
      simp [Nat.ne_of_gt hpid]
    · simp [he]

theorem Store.get?_added_some {s : Store} {pid : Nat} {p : PNode} {name : Bytes} (hp : s.get? pid = some p)
    {i : Nat} {n : PNode} (h : (s.added pid p name).get? i = some n) :
    (i = pid ∧ n = { p with children := p.children ++ [s.nodes.length] }) ∨
    (i ≠ pid ∧ i < s.nodes.length ∧ s.get? i = some n) ∨
    (i = s.nodes.length ∧
      n = { name := name, hierarchy := p.hierarchy + 1, index := s.idxCounter + 1, children := [] }) := by
  rw [s.get?_added pid p name hp] at h
  by_cases h1 : i < s.nodes.length
  · rw [if_pos h1] at h
    by_cases h2 : i = pid
    · rw [if_pos h2] at h; exact .inl ⟨h2, (Option.some.inj h).symm⟩
    · rw [if_neg h2] at h; exact .inr (.inl ⟨h2, h1, h⟩)
  · by_cases h2 : i = s.nodes.length
    · rw [if_neg h1, if_pos h2] at h
      exact .inr (.inr ⟨h2, (Option.some.inj h).symm⟩)
    · rw [if_neg h1, if_neg h2] at h; cases h

theorem Store.wf_added (s : Store) (h : s.WF) (pid : Nat) (p : PNode) (name : Bytes)
    (hp : s.get? pid = some p) (hc : s.findChild p name = none) : (s.added pid p name).WF := by
  have hget := s.get?_added pid p name hp
  have hlen := s.length_added pid p name
  have hname : ∀ c, c < s.nodes.length → (s.added pid p name).nameOf c = s.nameOf c := by
    intro c hcl
    simp only [Store.nameOf, hget c, hcl, if_true]
    by_cases he : c = pid
    · subst he; simp [hp]
    · simp [he]
  have hnew : (s.added pid p name).nameOf s.nodes.length = name := by
    simp [Store.nameOf, hget s.nodes.length]
  have hb := h.bound pid p hp
  have hpid : pid < s.nodes.length := (List.getElem?_eq_some_iff.mp hp).1
  refine ⟨fun i q hq => ?_, fun i q hq => ?_⟩
  · rw [hlen]
    rcases Store.get?_added_some hp hq with ⟨rfl, rfl⟩ | ⟨-, -, hq⟩ | ⟨rfl, rfl⟩
    · intro c hcq
      rcases List.mem_append.mp hcq with hcq | hcq
      · exact (hb c hcq).imp_right Nat.lt_succ_of_lt
      · obtain rfl := List.mem_singleton.mp hcq
        exact ⟨hpid, Nat.lt_succ_self _⟩
    · exact fun c hcq => (h.bound i q hq c hcq).imp_right Nat.lt_succ_of_lt
    · simp
  · rcases Store.get?_added_some hp hq with ⟨rfl, rfl⟩ | ⟨-, -, hq⟩ | ⟨rfl, rfl⟩
    · simp only [List.map_append, List.map_cons, List.map_nil, hnew,
        List.map_congr_left fun c hcc => hname c (hb c hcc).2]
      refine List.nodup_append.mpr ⟨h.names i p hp, by simp, ?_⟩
      -- the new name is none of the old children's: `findChildByText` found none
      intro a ha b hb' hab
      obtain ⟨c, hcc, rfl⟩ := List.mem_map.mp ha
      obtain ⟨cn, hgc⟩ : ∃ cn, s.get? c = some cn := ⟨s.nodes[c]'(hb c hcc).2, by simp [Store.get?]⟩
      apply s.findChild_none p _ hc c hcc cn hgc
      simpa [Store.nameOf, hgc] using hab.trans (List.mem_singleton.mp hb')
    · rw [List.map_congr_left fun c hcc => hname c (h.bound i q hq c hcc).2]
      exact h.names i q hq
    · simp

theorem Store.wf_add (s : Store) (h : s.WF) (pid : Nat) (name : Bytes) : (s.add pid name).1.WF := by
  cases hp : s.get? pid with
  | none => simpa [Store.add, hp] using h
  | some p =>
    cases hc : s.findChild p name with
    | some c => simpa [Store.add, hp, hc] using h
    | none =>
      rw [s.add_new pid p name hp hc]
      exact s.wf_added h pid p name hp hc

/-- the calls a client can make to build trees -/
inductive BuildOp where
  | newRoot (name : Bytes)
  | add (parent : Nat) (name : Bytes)

def Store.apply (s : Store) : BuildOp → Store
  | .newRoot n => (s.newRoot n).1
  | .add p n => (s.add p n).1

theorem Store.wf_reachable (ops : List BuildOp) : (ops.foldl Store.apply {}).WF := by
  have : ∀ (ops : List BuildOp) (s : Store), s.WF → (ops.foldl Store.apply s).WF := by
    intro ops
    induction ops with
    | nil => intro s h; exact h
    | cons o os ih =>
      intro s h
      apply ih
      cases o with
      | newRoot n => exact s.wf_newRoot h n
      | add p n => exact s.wf_add h p n
  exact this ops {} Store.wf_empty

/-- re-stamp every node's index and the counter arbitrarily -/
def Store.restamp (s : Store) (g : Nat → Nat) (k : Nat) : Store :=
  { nodes := s.nodes.map (fun n => { n with index := g n.index }), idxCounter := k }

theorem Store.get?_restamp (s : Store) (g : Nat → Nat) (k id : Nat) :
    (s.restamp g k).get? id = (s.get? id).map (fun n => { n with index := g n.index }) := by
  simp [Store.restamp, Store.get?]

theorem Store.toT_congr (s s' : Store)
    (hg : ∀ i, (s'.get? i).map (fun n => (n.name, n.children)) = (s.get? i).map (fun n => (n.name, n.children))) :
    ∀ (fuel id : Nat), s'.toT fuel id = s.toT fuel id := by
  intro fuel
  induction fuel with
  | zero => intro _; rfl
  | succ fuel ih =>
    intro id
    have := hg id
    simp only [Store.toT]
    cases h' : s'.get? id <;> cases h : s.get? id <;> simp [h', h] at this ⊢
    exact ⟨this.1, this.2 ▸ List.map_congr_left (fun c _ => ih c)⟩

theorem Store.validateRoot_restamp (s : Store) (g : Nat → Nat) (k : Nat) (id : Option Nat) :
    (s.restamp g k).validateRoot id = s.validateRoot id := by
  unfold Store.validateRoot
  cases id with
  | none => rfl
  | some i =>
    simp only [Store.get?_restamp]
    cases s.get? i <;> rfl

end Gtree
