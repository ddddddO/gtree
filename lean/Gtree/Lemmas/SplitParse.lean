import Gtree.Model.Split
import Gtree.Lemmas.ParseAny
/-
  What `parse` does with a row, by the row's first byte, for every row and parser state:
  a heading row and (outside heading mode) a row that starts with a list symbol is a root or an
  empty-text error; every other row is blank, an item at level ≥ 2, or an error.
-/
namespace Gtree

theorem separateRow_col0 (st : PState) (b : UInt8) (rest : Bytes) (hb : isBulletByte b = true) :
    separateRow st (b :: rest) = ({ st with sep := none }, some (0, rest)) :=
  separateRow_own st _ [] rest b (some (0, rest)) (by simp) hb rfl

theorem parse_col0 (p : PState) (b : UInt8) (rest : Bytes) (hb : isBulletByte b = true) :
    parse p (b :: rest) =
      (if (trimPrefixB sp rest).isEmpty then ({ p with sep := none }, .error .emptyText)
       else ({ p with sep := none }, .ok ((if p.sharp then 2 else 1), trimPrefixB sp rest))) := by
  rw [parse_list p _ (isBlank_symbol_row b (isSymbolByte_of_bullet b hb) rest) (head_listRow sp b 0 rest (.inl rfl) hb),
    separateRow_col0 p b rest hb]
  dsimp only
  rw [calcH_unindented _ 0 rfl]
  cases p.sharp <;> rfl

theorem attempt_frame (st : PState) (row : Bytes) (s : UInt8) :
    (attempt st row s).1.sharp = st.sharp ∧ (st.spaces ≠ 0 → (attempt st row s).1.spaces = st.spaces) := by
  cases hc : cut s row with
  | none => simp [attempt, hc]
  | some pr =>
    obtain ⟨before, aft⟩ := pr
    cases before with
    | nil => rw [attempt_cut_nil st row s aft hc]; exact ⟨rfl, fun _ => rfl⟩
    | cons c tl =>
      rw [attempt_cut_cons st row s c tl aft hc]
      split
      · obtain ⟨v, hv, e⟩ := ownAttempt_cons_fst st c tl aft
        rw [e]
        exact ⟨presep_sharp st c, hv⟩
      · exact ⟨rfl, fun _ => rfl⟩

theorem ownAttempt_level (st st' : PState) (c : UInt8) (ind' tl : Bytes) (k : Nat) (after : Bytes)
    (h : ownAttempt st (c :: ind') tl = (st', some (k, after))) : 2 ≤ calculateHierarchy st' k := by
  obtain ⟨d, hd⟩ := presep_sep_some st c
  rw [ownAttempt_cons st c ind' tl d hd] at h
  dsimp only at h
  generalize hu : (if st.spaces == 0 then ind'.length + 1 else st.spaces) = u at h
  by_cases hbad : (!(c :: ind').all (· == d)) = true
  · rw [if_pos hbad] at h
    cases h
  · by_cases hmod : (decide (2 ≤ u) && (ind'.length + 1) % u != 0) = true
    · rw [if_neg hbad, if_pos hmod] at h
      cases h
    · -- accepted: the indentation, `ind'.length + 1` bytes, is a whole multiple of the unit `u`
      rw [if_neg hbad, if_neg hmod] at h
      cases h
      have hu0 : u ≠ 0 := hu ▸ learntUnit_ne_zero _ _
      have hm : 2 ≤ u → (ind'.length + 1) % u = 0 := by
        simpa only [Bool.and_eq_true, decide_eq_true_eq, bne_iff_ne, ne_eq, not_and, Decidable.not_not] using hmod
      rw [calcH_sep ({ presep st c with spaces := u } : PState) d _ hd hu0]
      exact Nat.le_add_right_of_le (Nat.succ_le_succ (one_le_div_unit u _ hu0 hm (Nat.succ_pos _)))

theorem separateRowAux_frame (row : Bytes) (syms : List UInt8) (st : PState) :
    (separateRowAux st row syms).1.sharp = st.sharp ∧
      (st.spaces ≠ 0 → (separateRowAux st row syms).1.spaces = st.spaces) := by
  induction syms generalizing st with
  | nil => exact ⟨rfl, fun _ => rfl⟩
  | cons s ss ih =>
    simp only [separateRowAux]
    have h1 := attempt_frame st row s
    cases ha : attempt st row s with
    | mk st1 r =>
      rw [ha] at h1
      cases r with
      | some v => exact h1
      | none =>
        have h2 := ih st1
        exact ⟨h2.1.trans h1.1, fun h0 => (h2.2 (by rw [h1.2 h0]; exact h0)).trans (h1.2 h0)⟩

theorem isSharpRow_cons (x : UInt8) (xs : Bytes) : isSharpRow (x :: xs) = (x == shp) := rfl

theorem blank_not_sharp (b : Bytes) (h : isBlank b = true) : isSharpRow b = false := by
  cases b with
  | nil => rfl
  | cons x xs =>
    by_cases hx : x = shp
    · rw [hx, isBlank_symbol_row shp rfl xs] at h
      exact absurd h (by decide)
    · exact (isSharpRow_cons x xs).trans (beq_false_of_ne hx)

theorem parse_frame (p : PState) (row : Bytes) :
    (parse p row).1.sharp = (p.sharp || isSharpRow row) ∧ (p.spaces ≠ 0 → (parse p row).1.spaces = p.spaces) := by
  by_cases hb : isBlank row = true
  · simp [parse, hb, blank_not_sharp row hb]
  · cases row with
    | nil => exact absurd (by decide) hb
    | cons b rest =>
      rw [isSharpRow_cons]
      by_cases hsh : b = shp
      · subst hsh
        rw [parse_heading, beq_self_eq_true, Bool.or_true]
        cases (trimB sp (trimLeftB shp rest)).isEmpty <;> exact ⟨rfl, fun _ => rfl⟩
      · rw [parse_list p _ (by simpa using hb) (by simpa using hsh), beq_false_of_ne hsh, Bool.or_false]
        have h1 := separateRowAux_frame (b :: rest) listSymbols p
        cases hs : separateRow p (b :: rest) with
        | mk st' r =>
          rw [show separateRowAux p (b :: rest) listSymbols = (st', r) from hs] at h1
          cases r with
          | none => exact h1
          | some v =>
            dsimp only
            cases (trimPrefixB sp v.2).isEmpty <;> exact h1

theorem parse_other_level (p : PState) (b : UInt8) (rest : Bytes) (hsh : b ≠ shp) (hbu : isBulletByte b = false)
    (h : Nat) (text : Bytes) (heq : (parse p (b :: rest)).2 = .ok (h, text)) : 2 ≤ h := by
  have hbl : isBlank (b :: rest) = false := by
    cases hbl : isBlank (b :: rest) with
    | false => rfl
    | true => simp [parse, hbl] at heq
  obtain ⟨x, tl, hai, hm⟩ := parse_row p (b :: rest) hbl (by simpa using hsh)
  split at hm
  · rename_i st' k after hbx hown
    rw [hm] at heq
    cases hio : indentOf (b :: rest) with
    | nil =>
      -- no indentation: the first byte is the one after it, and that is a bullet symbol
      have hs := row_split (b :: rest)
      rw [hio, hai, List.nil_append, List.cons.injEq] at hs
      rw [hs.1, hbx] at hbu
      cases hbu
    | cons c ind' =>
      rw [hio] at hown
      split at heq
      · cases heq
      · cases heq
        exact ownAttempt_level p st' c ind' tl k after hown
  · rw [hm] at heq
    cases heq

theorem rootBeginning_cons (sh : Bool) (b : UInt8) (rest : Bytes) :
    rootBeginning (b :: rest) (sh || isSharpRow (b :: rest)) = (b == shp || !sh && isBulletByte b) := by
  rw [isSharpRow_cons]
  by_cases hsh : b = shp
  · subst hsh
    simp [rootBeginning, isSharpRow]
  · have h1 : (b == shp) = false := beq_false_of_ne hsh
    cases sh <;> simp [rootBeginning, isSharpRow, startsWithSymbol, isSymbolByte, isBulletByte, h1]

/-- A row that begins a block (by its first byte and the heading mode including this row, `p.sharp || isSharpRow l`)
    parses to a root or is refused for its empty text; any other row that parses is an item at level ≥ 2. -/
theorem parse_class (p : PState) (l : Bytes) :
    (rootBeginning l (p.sharp || isSharpRow l) = true →
      (∃ text, (parse p l).2 = .ok (1, text)) ∨ (parse p l).2 = .error .emptyText) ∧
    (rootBeginning l (p.sharp || isSharpRow l) = false →
      ∀ h text, (parse p l).2 = .ok (h, text) → 2 ≤ h) := by
  cases l with
  | nil =>
    refine ⟨fun h => ?_, fun _ h text heq => nomatch heq⟩
    generalize (p.sharp || isSharpRow []) = sh at h
    cases sh <;> cases h
  | cons b rest =>
    rw [rootBeginning_cons]
    by_cases hsh : b = shp
    · subst hsh
      rw [parse_heading]
      refine ⟨fun _ => ?_, fun h => absurd h (by simp)⟩
      cases (trimB sp (trimLeftB shp rest)).isEmpty
      · exact Or.inl ⟨_, rfl⟩
      · exact Or.inr rfl
    · rw [beq_false_of_ne hsh, Bool.false_or]
      cases hbu : isBulletByte b with
      | false => exact ⟨fun h => absurd h (by simp), fun _ => parse_other_level p b rest hsh hbu⟩
      | true =>
        rw [parse_col0 p b rest hbu]
        cases p.sharp
        · refine ⟨fun _ => ?_, fun h => absurd h (by decide)⟩
          cases (trimPrefixB sp rest).isEmpty
          · exact Or.inl ⟨_, rfl⟩
          · exact Or.inr rfl
        · refine ⟨fun h => absurd h (by decide), fun _ h text => ?_⟩
          cases (trimPrefixB sp rest).isEmpty with
          | true => exact fun heq => nomatch heq
          | false => intro heq; cases heq; exact Nat.le_refl 2

end Gtree
