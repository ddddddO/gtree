import Gtree.Lemmas.ByteEq
import Gtree.Model.FS
/-
  What MkdirAll / Create can do to the file system at all – for every path, every file system, every outcome
  (success or refusal): missing prefixes of the given path become directories, the given path the empty file,
  nothing else (`FS.GrowsBy`).
-/
namespace Gtree

theorem lookup_cons (e : Bytes × Kind) (es : FS) (p : Bytes) :
    FS.lookup (e :: es) p = if e.1 = p then some e.2 else FS.lookup es p := by
  by_cases h : e.1 = p <;> simp [FS.lookup, h]

theorem lookup_snoc (fs : FS) (x : Bytes) (k : Kind) (p : Bytes) :
    FS.lookup (fs ++ [(x, k)]) p = if fs.lookup p = none ∧ x = p then some k else fs.lookup p := by
  induction fs with
  | nil => simp [lookup_cons, show FS.lookup [] p = none from rfl]
  | cons e es ih =>
    rw [List.cons_append, lookup_cons, lookup_cons, ih]
    by_cases hep : e.1 = p <;> simp [hep]

theorem lookup_replace (fs : FS) (q : Bytes) (k : Kind) (p : Bytes) :
    FS.lookup (fs.map (fun e => if e.1 == q then (q, k) else e)) p =
      if p = q ∧ fs.lookup q ≠ none then some k else fs.lookup p := by
  induction fs with
  | nil => simp [FS.lookup]
  | cons e es ih =>
    rw [List.map_cons, lookup_cons, lookup_cons, lookup_cons, ih]
    by_cases heq : e.1 = q
    · by_cases hp : q = p
      · simp [heq, hp]
      · simp [heq, hp, Ne.symm hp]
    · by_cases hep : e.1 = p
      · simp [hep, show p ≠ q from fun h => heq (hep.trans h)]
      · simp [heq, hep]

theorem lookup_ne_none_iff (fs : FS) (p : Bytes) : fs.lookup p ≠ none ↔ p ∈ fs.map (·.1) := by
  have : fs.lookup p = none ↔ fs.find? (fun e => e.1 == p) = none := by
    unfold FS.lookup
    cases fs.find? (fun e => e.1 == p) <;> simp
  rw [ne_eq, this, List.find?_eq_none]
  simp only [beq_iff_eq, Classical.not_forall, Decidable.not_not, List.mem_map, exists_prop]

/-- `fs'` differs from `fs` at most in this: absent keys in `D` have become directories, keys in `C` empty files -/
def FS.GrowsBy (D C : Bytes → Prop) (fs fs' : FS) : Prop :=
  ∀ p, fs'.lookup p = fs.lookup p ∨ (fs.lookup p = none ∧ D p ∧ fs'.lookup p = some .dir) ∨
    (C p ∧ fs'.lookup p = some (.file 0))

theorem FS.GrowsBy.refl (D C : Bytes → Prop) (fs : FS) : FS.GrowsBy D C fs fs := fun _ => Or.inl rfl

theorem FS.GrowsBy.mono {D C D' C' : Bytes → Prop} {a b : FS} (h : FS.GrowsBy D C a b) (hD : ∀ p, D p → D' p)
    (hC : ∀ p, C p → C' p) : FS.GrowsBy D' C' a b := fun p =>
  (h p).imp id (Or.imp (fun ⟨n, d, e⟩ => ⟨n, hD p d, e⟩) (fun ⟨c, e⟩ => ⟨hC p c, e⟩))

theorem FS.GrowsBy.trans {D C : Bytes → Prop} {a b c : FS} (h1 : FS.GrowsBy D C a b) (h2 : FS.GrowsBy D C b c) :
    FS.GrowsBy D C a c := by
  intro p
  rcases h2 p with e | ⟨hn, hd, hdir⟩ | hcf
  · rw [e]; exact h1 p
  · rcases h1 p with e1 | ⟨_, _, e1⟩ | ⟨_, e1⟩
    · exact Or.inr (Or.inl ⟨e1 ▸ hn, hd, hdir⟩)
    · rw [e1] at hn; cases hn
    · rw [e1] at hn; cases hn
  · exact Or.inr (Or.inr hcf)

theorem FS.GrowsBy.changed {D C : Bytes → Prop} {a b : FS} (h : FS.GrowsBy D C a b) {p : Bytes}
    (hp : b.lookup p ≠ a.lookup p) : D p ∨ C p := by
  rcases h p with e | ⟨_, d, _⟩ | ⟨c, _⟩
  · exact absurd e hp
  · exact .inl d
  · exact .inr c

theorem FS.GrowsBy.unchanged {D C : Bytes → Prop} {a b : FS} (h : FS.GrowsBy D C a b) {p : Bytes} (hD : ¬ D p) (hC : ¬ C p) :
    b.lookup p = a.lookup p :=
  Decidable.not_not.mp fun hp => (h.changed hp).elim hD hC

theorem FS.GrowsBy.preserves {D C : Bytes → Prop} {a b : FS} (h : FS.GrowsBy D C a b) {p : Bytes} {k : Kind}
    (hk : a.lookup p = some k) (hC : ¬ C p) : b.lookup p = some k := by
  rcases h p with e | ⟨n, _, _⟩ | ⟨c, _⟩
  · rw [e, hk]
  · rw [hk] at n; cases n
  · exact absurd c hC

theorem mkdirAll_go_grows (l : List Bytes) (fs : FS) : FS.GrowsBy (· ∈ l) (fun _ => False) fs (FS.mkdirAll.go fs l).1 := by
  induction l generalizing fs with
  | nil => exact .refl _ _ fs
  | cons q qs ih =>
    replace ih := fun fs => (ih fs).mono (D' := (· ∈ q :: qs)) (fun _ h => List.mem_cons_of_mem _ h) (fun _ h => h)
    simp only [FS.mkdirAll.go]
    split
    · exact .refl _ _ fs
    · split
      · exact ih fs
      · exact .refl _ _ fs
      · refine .trans (fun p => ?_) (ih _)
        rw [lookup_snoc]
        by_cases h : fs.lookup p = none ∧ q = p
        · exact Or.inr (Or.inl ⟨h.1, by simp [h.2], by rw [if_pos h]⟩)
        · exact Or.inl (by rw [if_neg h])

theorem mkdirAll_grows (fs : FS) (q : Bytes) : FS.GrowsBy (· ∈ prefixesOf q) (fun _ => False) fs (fs.mkdirAll q).1 := by
  unfold FS.mkdirAll
  split
  · exact .refl _ _ fs
  · exact mkdirAll_go_grows _ fs

theorem create_grows (fs : FS) (q : Bytes) : FS.GrowsBy (fun _ => False) (· = q) fs (fs.create q).1 := by
  simp only [FS.create]
  split
  · exact .refl _ _ fs
  · split
    · exact .refl _ _ fs
    · split
      · exact .refl _ _ fs
      · intro p
        rw [lookup_replace]
        by_cases h : p = q ∧ fs.lookup q ≠ none
        · exact Or.inr (Or.inr ⟨h.1, by rw [if_pos h]⟩)
        · exact Or.inl (by rw [if_neg h])
      · intro p
        rw [lookup_snoc]
        by_cases h : fs.lookup p = none ∧ q = p
        · exact Or.inr (Or.inr ⟨h.2.symm, by rw [if_pos h]⟩)
        · exact Or.inl (by rw [if_neg h])

theorem mkdirAll_changes (fs : FS) (q p : Bytes) (hp : p ∉ prefixesOf q) : (fs.mkdirAll q).1.lookup p = fs.lookup p :=
  (mkdirAll_grows fs q).unchanged hp id

theorem create_changes (fs : FS) (q p : Bytes) (hp : p ≠ q) : (fs.create q).1.lookup p = fs.lookup p :=
  (create_grows fs q).unchanged id hp

end Gtree
