import Gtree.Lemmas.Build
/- Nothing the user wrote is dropped: popping, re-opening and closing nodes never loses a name. -/
namespace Gtree

mutual
def namesT : T → List Bytes
  | .mk n ks => n :: namesL ks
def namesL : List T → List Bytes
  | [] => []
  | t :: ts => namesT t ++ namesL ts
end

theorem namesL_append (a b : List T) : namesL (a ++ b) = namesL a ++ namesL b := by
  induction a with
  | nil => simp [namesL]
  | cons t ts ih => simp [namesL, ih]

def namesF (f : Frame) : List Bytes := f.name :: (namesL f.left ++ namesL f.right)

def namesZ : Zipper → List Bytes
  | [] => []
  | f :: rest => namesF f ++ namesZ rest

theorem mem_namesZ_upOne (x : Bytes) (z : Zipper) : x ∈ namesZ (upOne z) ↔ x ∈ namesZ z := by
  match z with
  | [] => simp [upOne]
  | [f] => simp [upOne]
  | f :: p :: rest =>
    simp only [upOne, namesZ, namesF, Frame.close, namesL_append, namesL, namesT, List.mem_append, List.mem_cons,
      List.append_nil]
    -- the same disjuncts on both sides, in another order
    grind

theorem mem_namesZ_upN (x : Bytes) (k : Nat) (z : Zipper) : x ∈ namesZ (upN k z) ↔ x ∈ namesZ z := by
  induction k generalizing z with
  | zero => rfl
  | succ k ih => rw [upN, ih, mem_namesZ_upOne]

theorem mem_namesZ_closeTo (x : Bytes) (n : Nat) (z : Zipper) : x ∈ namesZ (closeTo n z) ↔ x ∈ namesZ z :=
  mem_namesZ_upN x _ z

theorem mem_namesL_split (x : Bytes) (kids l : List T) (c : T) (r : List T) (h : splitAtName x kids = some (l, c, r))
    (w : Bytes) : w ∈ namesL kids ↔ w ∈ namesL l ∨ w = x ∨ w ∈ namesL c.kids ∨ w ∈ namesL r := by
  obtain ⟨rfl, rfl⟩ := splitAtName_spec x kids l c r h
  cases c
  simp [namesL_append, namesL, namesT]

theorem mem_namesZ_descend (x y : Bytes) (f : Frame) (rest : Zipper) :
    y ∈ namesZ (descend x (f :: rest)) ↔ (y = x ∨ y ∈ namesZ (f :: rest)) := by
  simp only [descend]
  cases hs : splitAtName x (f.left ++ f.right) with
  | none =>
    simp only [namesZ, namesF, namesL, namesL_append, List.mem_append, List.mem_cons, List.append_nil,
      List.not_mem_nil, or_false, or_assoc]
  | some p =>
    obtain ⟨l, c, r⟩ := p
    have hm := mem_namesL_split x _ l c r hs y
    have hc := (splitAtName_spec x _ l c r hs).2
    simp only [namesZ, namesF, namesL, namesL_append, List.append_nil, List.mem_append, List.mem_cons] at hm ⊢
    rw [hc, hm]
    -- the same disjuncts on both sides, in another order
    grind

theorem mem_namesZ_dfs (h : Nat) (text : Bytes) (z z' : Zipper) (hd : dfs h text z = some z') (y : Bytes) :
    y ∈ namesZ z' ↔ (y = text ∨ y ∈ namesZ z) := by
  obtain ⟨h2, hle, hz'⟩ := dfs_some h text z z' hd
  obtain ⟨f, rest, hfr, _⟩ := closeTo_cons (h - 1) z (Nat.le_sub_one_of_lt h2) hle
  rw [hz', hfr, mem_namesZ_descend, ← hfr, mem_namesZ_closeTo]

theorem mem_namesL_closeAll (y : Bytes) (z : Zipper) (hy : y ∈ namesZ z) : y ∈ namesL (closeAll z).toList := by
  cases z with
  | nil => cases hy
  | cons f r =>
    have hlen : (closeTo 1 (f :: r)).length = 1 := closeTo_length 1 _ (Nat.le_refl 1) (by simp)
    simp only [closeAll]
    rw [← mem_namesZ_closeTo y 1] at hy
    match hct : closeTo 1 (f :: r), hlen with
    | [f'], _ =>
      rw [hct] at hy
      simpa [namesZ, namesF, Frame.close, namesT, namesL, namesL_append] using hy

end Gtree
