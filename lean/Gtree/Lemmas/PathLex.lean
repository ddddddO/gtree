import Gtree.Lemmas.ByteEq
import Gtree.Model.Path
import Gtree.Model.Grow
/-
  Lexical theory of path.Join / path.Clean / strings.TrimSuffix on names that are single valid path elements:
  joining such names is just writing them with '/' in between (`joinSlash`).
-/
namespace Gtree

/-- a single valid path element, as a proposition -/
def Elem (n : Bytes) : Prop := n ≠ [] ∧ n ≠ [dot] ∧ n ≠ dotdot ∧ slash ∉ n

theorem singleElem_iff (n : Bytes) : singleElem n = true ↔ Elem n := by
  unfold singleElem Elem
  simp only [Bool.and_eq_true, Bool.not_eq_eq_eq_not, Bool.not_true, bne_iff_ne, ne_eq,
    List.isEmpty_eq_false_iff, List.contains_eq_mem, decide_eq_false_iff_not, and_assoc]

theorem splitSlash_of_not_mem (n : Bytes) (h : slash ∉ n) : splitSlash n = [n] := by
  induction n with
  | nil => rfl
  | cons x xs ih =>
    have hx : (x == slash) = false := beq_false_of_ne fun e => h (by simp [e])
    simp [splitSlash, ih (fun e => h (by simp [e])), hx]

theorem splitSlash_ne_nil (p : Bytes) : splitSlash p ≠ [] := by
  cases p with
  | nil => simp [splitSlash]
  | cons x xs =>
    simp only [splitSlash]
    cases splitSlash xs with
    | nil => simp
    | cons l ls => simp only; split <;> simp

theorem splitSlash_append (n rest : Bytes) (h : slash ∉ n) :
    splitSlash (n ++ slash :: rest) = n :: splitSlash rest := by
  induction n with
  | nil =>
    simp only [List.nil_append, splitSlash]
    cases hs : splitSlash rest with
    | nil => exact absurd hs (splitSlash_ne_nil rest)
    | cons l ls => simp
  | cons x xs ih =>
    have hx : (x == slash) = false := beq_false_of_ne fun e => h (by simp [e])
    simp only [List.cons_append, splitSlash, ih (fun e => h (by simp [e])), hx, Bool.false_eq_true, if_false]

theorem splitSlash_joinSlash (es : List Bytes) (h : es ≠ []) (hs : ∀ e ∈ es, slash ∉ e) : splitSlash (joinSlash es) = es := by
  induction es with
  | nil => exact absurd rfl h
  | cons e r ih =>
    cases r with
    | nil => simpa [joinSlash] using splitSlash_of_not_mem e (hs e (by simp))
    | cons e2 rest =>
      simp only [joinSlash, splitSlash_append e _ (hs e (by simp)), ih (by simp) (fun x hx => hs x (by simp [hx]))]

theorem splitSlash_joinSlash_append (a : List Bytes) (rest : Bytes) (ha : a ≠ []) (hs : ∀ e ∈ a, slash ∉ e) :
    splitSlash (joinSlash a ++ slash :: rest) = a ++ splitSlash rest := by
  induction a with
  | nil => exact absurd rfl ha
  | cons e r ih =>
    cases r with
    | nil => simpa [joinSlash] using splitSlash_append e rest (hs e (by simp))
    | cons e2 r =>
      rw [show joinSlash (e :: e2 :: r) ++ slash :: rest = e ++ slash :: (joinSlash (e2 :: r) ++ slash :: rest) by
        simp [joinSlash], splitSlash_append e _ (hs e (by simp)), ih (by simp) (fun x hx => hs x (by simp [hx]))]
      simp

theorem cleanElems_elems_append (rooted : Bool) (rest es stack : List Bytes) (h : ∀ e ∈ es, Elem e) :
    cleanElems rooted (es ++ rest) stack = cleanElems rooted rest (es.reverse ++ stack) := by
  induction es generalizing stack with
  | nil => rfl
  | cons e es ih =>
    obtain ⟨h1, h2, h3, _⟩ := h e (by simp)
    have he : e.isEmpty = false := List.isEmpty_eq_false_iff.mpr h1
    have hd : (e == [dot]) = false := beq_false_of_ne h2
    have hdd : (e == dotdot) = false := beq_false_of_ne h3
    simp only [List.cons_append, cleanElems, he, hd, hdd, Bool.or_self, Bool.false_eq_true, if_false]
    rw [ih (e :: stack) (fun x hx => h x (by simp [hx]))]
    simp

theorem joinSlash_ne_nil (es : List Bytes) (h : es ≠ []) (hs : ∀ e ∈ es, e ≠ []) : joinSlash es ≠ [] := by
  cases es with
  | nil => exact absurd rfl h
  | cons e r =>
    cases r with
    | nil => simpa [joinSlash] using hs e (by simp)
    | cons e2 rest => simp [joinSlash]

theorem joinSlash_head_ne_slash : ∀ (es : List Bytes), (∀ e ∈ es, Elem e) → es ≠ [] → (joinSlash es).head? ≠ some slash
  | [], _, h => absurd rfl h
  | e :: rest, hs, _ => by
    obtain ⟨h1, _, _, h4⟩ := hs e (by simp)
    cases e with
    | nil => exact absurd rfl h1
    | cons x xs =>
      have hx : x ≠ slash := fun e' => h4 (by simp [e'])
      cases rest with
      | nil => simpa [joinSlash] using hx
      | cons e2 r => simpa [joinSlash] using hx

theorem pathClean_of_elems {p : Bytes} {es : List Bytes} (hp : p ≠ []) (hhd : p.head? ≠ some slash)
    (hes : joinSlash es ≠ []) (hc : cleanElems false (splitSlash p) [] = es) : pathClean p = joinSlash es := by
  simp only [pathClean, List.isEmpty_eq_false_iff.mpr hp, beq_false_of_ne hhd, hc, List.isEmpty_eq_false_iff.mpr hes,
    Bool.false_eq_true, if_false]

theorem pathClean_joinSlash (es : List Bytes) (hne : es ≠ []) (hs : ∀ e ∈ es, Elem e) :
    pathClean (joinSlash es) = joinSlash es := by
  have hjn := joinSlash_ne_nil es hne (fun e he => (hs e he).1)
  refine pathClean_of_elems hjn (joinSlash_head_ne_slash es hs hne) hjn ?_
  rw [splitSlash_joinSlash es hne (fun e he => (hs e he).2.2.2)]
  simpa [cleanElems] using cleanElems_elems_append false [] es [] hs

theorem pathJoin_elems (es : List Bytes) (hne : es ≠ []) (hs : ∀ e ∈ es, Elem e) :
    pathJoin es = joinSlash es := by
  unfold pathJoin
  have hf : es.filter (fun e => !e.isEmpty) = es :=
    List.filter_eq_self.mpr fun e he => by simpa using (hs e he).1
  rw [hf]
  simp only [List.isEmpty_eq_false_iff.mpr hne, Bool.false_eq_true, if_false]
  exact pathClean_joinSlash es hne hs

theorem pathJoin_two (a b : Bytes) (ha : a ≠ []) (hb : b ≠ []) : pathJoin [a, b] = pathClean (a ++ slash :: b) := by
  simp [pathJoin, List.isEmpty_eq_false_iff.mpr ha, List.isEmpty_eq_false_iff.mpr hb, joinSlash]

theorem joinSlash_append (a b : List Bytes) (ha : a ≠ []) (hb : b ≠ []) :
    joinSlash (a ++ b) = joinSlash a ++ slash :: joinSlash b := by
  obtain ⟨y, ys, rfl⟩ := List.exists_cons_of_ne_nil hb
  induction a with
  | nil => exact absurd rfl ha
  | cons x r ih =>
    cases r with
    | nil => simp [joinSlash]
    | cons x2 xs =>
      simp only [List.cons_append] at ih ⊢
      simp only [joinSlash, ih (List.cons_ne_nil _ _), List.append_assoc, List.cons_append]

theorem pathJoin_cons (a : Bytes) (es : List Bytes) (ha : Elem a) (hne : es ≠ []) (hs : ∀ e ∈ es, Elem e) :
    pathJoin [a, joinSlash es] = joinSlash (a :: es) := by
  rw [pathJoin_two a _ ha.1 (joinSlash_ne_nil es hne (fun e he => (hs e he).1)),
    show a ++ slash :: joinSlash es = joinSlash (a :: es) from (joinSlash_append [a] es (by simp) hne).symm]
  exact pathClean_joinSlash (a :: es) (by simp) (List.forall_mem_cons.mpr ⟨ha, hs⟩)

theorem pathOf_elems (rootName name : Bytes) (anc : List Anc)
    (hr : Elem rootName) (hn : Elem name) (ha : ∀ a ∈ anc, Elem a.1) :
    pathOf rootName name anc = joinSlash (rootName :: (anc.reverse.map (·.1) ++ [name])) := by
  unfold pathOf
  have key : ∀ (anc : List Anc) (es : List Bytes), es ≠ [] → (∀ e ∈ es, Elem e) → (∀ a ∈ anc, Elem a.1) →
      anc.foldl (fun acc a => pathJoin [a.1, acc]) (joinSlash es) = joinSlash (anc.reverse.map (·.1) ++ es) := by
    intro anc
    induction anc with
    | nil => intro es _ _ _; simp
    | cons a rest ih =>
      intro es hne hs ha'
      simp only [List.foldl]
      rw [pathJoin_cons a.1 es (ha' a (by simp)) hne hs]
      rw [ih (a.1 :: es) (by simp) (List.forall_mem_cons.mpr ⟨ha' a (by simp), hs⟩) (fun x hx => ha' x (by simp [hx]))]
      simp
  have h0 : pathJoin [name] = joinSlash [name] := pathJoin_elems [name] (by simp) (by simpa using hn)
  rw [h0, key anc [name] (by simp) (by simpa using hn) ha]
  exact pathJoin_cons rootName _ hr (by simp) (List.forall_mem_append.mpr
    ⟨List.forall_mem_map.mpr fun a h => ha a (List.mem_reverse.mp h), List.forall_mem_singleton.mpr hn⟩)

theorem filepathJoin_joinSlash (ts es : List Bytes) (ht : ts ≠ []) (he : es ≠ [])
    (hts : ∀ e ∈ ts, Elem e) (hes : ∀ e ∈ es, Elem e) :
    filepathJoin [joinSlash ts, joinSlash es] = joinSlash (ts ++ es) := by
  rw [filepathJoin, pathJoin_two _ _ (joinSlash_ne_nil ts ht (fun e h => (hts e h).1))
    (joinSlash_ne_nil es he (fun e h => (hes e h).1)), ← joinSlash_append ts es ht he]
  exact pathClean_joinSlash (ts ++ es) (by simp [ht]) (List.forall_mem_append.mpr ⟨hts, hes⟩)

/-- `TrimSuffix(path, name)` leaves `a/b/`; `Clean` drops the trailing slash -/
theorem pathClean_trailing (es : List Bytes) (hne : es ≠ []) (hs : ∀ e ∈ es, Elem e) :
    pathClean (joinSlash es ++ [slash]) = joinSlash es := by
  have hjn := joinSlash_ne_nil es hne (fun e he => (hs e he).1)
  have hshape : joinSlash es ++ [slash] = joinSlash (es ++ [[]]) := by
    rw [joinSlash_append es [[]] hne (by simp)]; simp [joinSlash]
  refine pathClean_of_elems (by simp) ?_ hjn ?_
  · have hhead := joinSlash_head_ne_slash es hs hne
    cases h : joinSlash es with
    | nil => exact absurd h hjn
    | cons x xs => rw [h] at hhead; simpa using hhead
  · rw [hshape, splitSlash_joinSlash (es ++ [[]]) (by simp) (List.forall_mem_append.mpr
      ⟨fun e he => (hs e he).2.2.2, by simp⟩), cleanElems_elems_append false [[]] es [] hs]
    simp [cleanElems]

theorem filepathJoin_trailing (ts es : List Bytes) (ht : ts ≠ []) (he : es ≠ [])
    (hts : ∀ e ∈ ts, Elem e) (hes : ∀ e ∈ es, Elem e) :
    filepathJoin [joinSlash ts, joinSlash es ++ [slash]] = joinSlash (ts ++ es) := by
  have hj : joinSlash ts ++ slash :: (joinSlash es ++ [slash]) = joinSlash (ts ++ es) ++ [slash] := by
    rw [joinSlash_append ts es ht he]; simp
  rw [filepathJoin, pathJoin_two _ _ (joinSlash_ne_nil ts ht (fun e h => (hts e h).1)) (by simp), hj]
  exact pathClean_trailing (ts ++ es) (by simp [ht]) (List.forall_mem_append.mpr ⟨hts, hes⟩)

theorem filepathJoin_empty (ts : List Bytes) (ht : ts ≠ []) (hts : ∀ e ∈ ts, Elem e) :
    filepathJoin [joinSlash ts, []] = joinSlash ts := by
  have h1 := List.isEmpty_eq_false_iff.mpr (joinSlash_ne_nil ts ht (fun e h => (hts e h).1))
  simpa [filepathJoin, pathJoin, h1, joinSlash] using pathClean_joinSlash ts ht hts

theorem trimSuffix_append (a n : Bytes) : trimSuffix (a ++ n) n = a := by
  rw [trimSuffix, if_pos (List.isSuffixOf_iff_suffix.mpr (List.suffix_append a n))]
  exact List.take_left' (by simp)

theorem trimSuffix_self (n : Bytes) : trimSuffix n n = [] := trimSuffix_append [] n

theorem trimSuffix_joinSlash_snoc (P : List Bytes) (n : Bytes) (hP : P ≠ []) :
    trimSuffix (joinSlash (P ++ [n])) n = joinSlash P ++ [slash] := by
  rw [joinSlash_append P [n] hP (by simp), joinSlash, List.append_cons]
  exact trimSuffix_append _ n

/-- what the mkdirer hands to `Create` / `MkdirAll` for a node with path `P ++ [n]` -/
theorem filepathJoin_node (ts P : List Bytes) (n : Bytes) (ht : ts ≠ []) (hts : ∀ e ∈ ts, Elem e) (hP : ∀ e ∈ P, Elem e)
    (hn : Elem n) : filepathJoin [joinSlash ts, joinSlash (P ++ [n])] = joinSlash (ts ++ P ++ [n]) := by
  rw [List.append_assoc]
  exact filepathJoin_joinSlash ts _ ht (by simp) hts (List.forall_mem_append.mpr ⟨hP, List.forall_mem_singleton.mpr hn⟩)

/-- what it hands to `MkdirAll` for a file: the path with the name trimmed off; `P = []` for a root -/
theorem filepathJoin_parent (ts P : List Bytes) (n : Bytes) (ht : ts ≠ []) (hts : ∀ e ∈ ts, Elem e) (hP : ∀ e ∈ P, Elem e) :
    filepathJoin [joinSlash ts, trimSuffix (joinSlash (P ++ [n])) n] = joinSlash (ts ++ P) := by
  by_cases hPe : P = []
  · subst hPe
    simp only [List.nil_append, joinSlash, trimSuffix_self, List.append_nil]
    exact filepathJoin_empty ts ht hts
  · rw [trimSuffix_joinSlash_snoc P n hPe]
    exact filepathJoin_trailing ts P ht hPe hts hP

end Gtree
