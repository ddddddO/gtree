import Gtree.Lemmas.HeapRepr
/-
  The pre-order traversal that the walker, the text printer and the mkdirer of the source each are: a callback on the
  node, then the same on each child in order, until the callback returns an error.  `foldNodes` is written by hand, so
  that the files about the printer and the mkdirer rest on no translated function but their own.

  The translation leaves the body of a `for … range` loop as a lambda inside its function.  To state what such a loop
  does, each Heap*.lean file writes its loop's body once more as a definition (`…Body`), equal to the generated lambda
  by `rfl`.  A `match` that a statement of another module repeats is compiled to a matcher of that module, which
  `exact` / `rw` do not identify with the one here once `σ` is a concrete type: case on the scrutinee
  (`rcases … <;> rfl`) to pass from one to the other.
-/
namespace Gtree.SrcH
open Gtree Gtree.Go

/-- the common form of the loop bodies that thread a state: `run` on the child, leaving the loop at the first error -/
def stepBody {σ : Type} (run : σ → Ptr → Option (σ × Option Src.Err)) : Ptr → σ → Go.Ctl σ (Option (σ × Option Src.Err)) :=
  fun child st_ =>
    match run st_ child with
    | none => Go.Ctl.ret none
    | some r_ =>
      match r_ with
      | (s, err) => if (Option.isSome err) then Go.Ctl.ret (some (s, err)) else Go.Ctl.next s

def foldNodes {σ : Type} (cb : Ptr → σ → σ × Option Src.Err) (h : Heap) : Nat → σ → Ptr → Option (σ × Option Src.Err)
  | 0, _, _ => none
  | fuel + 1, s, p =>
    match cb p s with
    | (s1, some e) => some (s1, some e)
    | (s1, none) =>
      match Go.forRange (h p).children s1 (stepBody (foldNodes cb h fuel)) with
      | Go.Ctl.ret r_ => r_
      | Go.Ctl.brk st_ | Go.Ctl.next st_ => some (st_, none)

theorem fold_step {σ : Type} (cb : Ptr → σ → σ × Option Src.Err) (h : Heap) (n : Bytes) (ks : List T) (s : σ) (p : Ptr)
    (fuel : Nat)
    (hk : ∀ s1, Go.forRange (h p).children s1 (stepBody (foldNodes cb h fuel)) =
      (match runAll cb (ptrsKids h ks (h p).children) s1 with
       | (s', some e) => Go.Ctl.ret (some (s', some e))
       | (s', none) => Go.Ctl.next s')) :
    foldNodes cb h (fuel + 1) s p = some (runAll cb (ptrs h (.mk n ks) p) s) := by
  rw [foldNodes, ptrs, runAll]
  rcases cb p s with ⟨s1, _ | e⟩
  · simp only [hk s1]
    rcases runAll cb (ptrsKids h ks (h p).children) s1 with ⟨s2, _ | e2⟩ <;> rfl
  · rfl

theorem fold_kids {σ : Type} (cb : Ptr → σ → σ × Option Src.Err) (h : Heap) (ts : List T) (s : σ) (cs : List Ptr)
    (par : Ptr) (lvl fuel : Nat) (hr : ReprKids h ts cs par lvl) (hf : sizeList ts ≤ fuel) :
    Go.forRange cs s (stepBody (foldNodes cb h fuel)) =
      (match runAll cb (ptrsKids h ts cs) s with
       | (s', some e) => Go.Ctl.ret (some (s', some e))
       | (s', none) => Go.Ctl.next s') := by
  induction ts, cs, par, lvl, hr using reprKids_induct generalizing s fuel with
  | nil => rfl
  | cons n ks ts c cs par lvl _ _ _ _ ihk ihs =>
    obtain ⟨fuel, rfl, hfk, hfs⟩ := fuel_cons hf
    have h1 := fold_step cb h n ks s c fuel fun s1 => ihk s1 fuel hfk
    rw [Go.forRange, ptrsKids, runAll_append]
    simp only [stepBody, h1]
    rcases runAll cb (ptrs h (.mk n ks) c) s with ⟨s1, _ | e⟩
    · exact ihs s1 (fuel + 1) hfs
    · rfl

theorem fold_node {σ : Type} (cb : Ptr → σ → σ × Option Src.Err) (h : Heap) (t : T) (s : σ) (p par : Ptr) (lvl fuel : Nat)
    (hr : Repr h t p par lvl) (hf : t.size ≤ fuel) :
    foldNodes cb h fuel s p = some (runAll cb (ptrs h t p) s) := by
  obtain ⟨n, ks⟩ := t
  obtain ⟨fuel, rfl, hfk⟩ := fuel_node hf
  exact fold_step cb h n ks s p fuel fun s1 => fold_kids cb h ks s1 _ p (lvl + 1) fuel hr.kids hfk

theorem ptrsKids_visits (h : Heap) : ∀ (ts : List T) (cs : List Ptr) (par : Ptr) (lvl : Nat),
    ReprKids h ts cs par lvl → (ptrsKids h ts cs).map (visitOf h) = readKids h ts cs lvl := by
  intro ts cs par lvl hr
  induction ts, cs, par, lvl, hr using reprKids_induct with
  | nil => rfl
  | cons n ks ts c cs par lvl _ hrc _ _ ihk ihs =>
    rw [ptrsKids, readKids, List.map_append, ihs, ptrs, readNode, List.map_cons, ihk, ← visitAt_level h c lvl hrc.level]
    rfl

theorem ptrs_visits (h : Heap) : ∀ (t : T) (p par : Ptr) (lvl : Nat), Repr h t p par lvl →
    (ptrs h t p).map (visitOf h) = readNode h t p lvl := by
  intro t p par lvl hr
  rw [← ptrsKids_singleton, ← readKids_singleton]
  exact ptrsKids_visits h [t] [p] par lvl (ReprKids_singleton.mpr hr)

end Gtree.SrcH
