import Gtree.Lemmas.SplitParse
import Gtree.Lemmas.GenStep
/-
  Splitting the document into root blocks and generating each block with a fresh stack (the blocks one
  after the other through the shared parser) gives the roots the simple generator gives for the whole document,
  or fails with the same first error (of the roots delivered before an error nothing is said), by a simulation
  (`Sim`) between the two, row by row.
-/
namespace Gtree

theorem genBlocksSeq_append {a b : List (List Bytes)} {p p' : PState} {rs : List T}
    (h : genBlocksSeq p a = (rs, none, p')) :
    genBlocksSeq p (a ++ b) = (rs ++ (genBlocksSeq p' b).1, (genBlocksSeq p' b).2) := by
  induction a generalizing p rs with
  | nil => cases h; rfl
  | cons x a ih =>
    simp only [List.cons_append, genBlocksSeq] at h ⊢
    cases hx : genBlock p x with
    | mk p1 r =>
      rw [hx] at h
      cases r with
      | error e => cases h
      | ok root =>
        simp only [Prod.mk.injEq] at h
        obtain ⟨rfl, h2, h3⟩ := h
        simp only [ih (Prod.ext rfl (Prod.ext h2 h3)), List.append_assoc]

theorem splitStep_root (st : SplitSt) (l : Bytes) (hb : rootBeginning l (st.sharp || isSharpRow l) = true) :
    splitStep st l = { sharp := st.sharp || isSharpRow l, block := [l],
                       out := if st.block.isEmpty then st.out else st.out ++ [st.block] } := by
  simp [splitStep, hb]

theorem splitStep_nonroot (st : SplitSt) (l : Bytes) (hb : rootBeginning l (st.sharp || isSharpRow l) = false) :
    splitStep st l = { sharp := st.sharp || isSharpRow l, block := st.block ++ [l], out := st.out } := by
  simp [splitStep, hb]

theorem split_suffix (rest : List Bytes) (st : SplitSt) (hne : st.block ≠ []) :
    ∃ x more, (rest.foldl splitStep st).final = st.out ++ (st.block ++ x) :: more := by
  induction rest generalizing st with
  | nil => exact ⟨[], [], by simp [SplitSt.final]⟩
  | cons l rest ih =>
    rw [List.foldl_cons]
    by_cases hb : rootBeginning l (st.sharp || isSharpRow l) = true
    · rw [splitStep_root st l hb, if_neg (by simpa using hne)]
      obtain ⟨x, more, h⟩ := ih { sharp := st.sharp || isSharpRow l, block := [l], out := st.out ++ [st.block] } (by simp)
      exact ⟨[], ([l] ++ x) :: more, by rw [h]; simp⟩
    · rw [splitStep_nonroot st l (by simpa using hb)]
      obtain ⟨x, more, h⟩ := ih { sharp := st.sharp || isSharpRow l, block := st.block ++ [l], out := st.out } (by simp)
      exact ⟨[l] ++ x, more, by rw [h]; simp⟩

/-- the blocks sent give the completed roots, and the block being collected has brought a fresh worker to the
    generator's state -/
structure Sim (g : GState) (st : SplitSt) : Prop where
  ex : ∃ pm, genBlocksSeq {} st.out = (g.done, none, pm) ∧ genRows { p := pm } st.block = ({ g with done := [] }, none)
  sharp : st.sharp = g.p.sharp

theorem genStep_nonroot (g : GState) (l : Bytes)
    (hnr : ∀ h text, (parse g.p l).2 = .ok (h, text) → 2 ≤ h) :
    (match genStep g l with
     | .error e => genStep { g with done := [] } l = .error e
     | .ok g' => genStep { g with done := [] } l = .ok { g' with done := [] } ∧ g'.done = g.done) := by
  cases hpr : parse g.p l with
  | mk p' r =>
    cases r with
    | error pe =>
      cases pe with
      | blank => rw [genStep_of_blank g l p' hpr, genStep_of_blank { g with done := [] } l p' hpr]; exact ⟨rfl, rfl⟩
      | emptyText => rw [genStep_of_empty g l p' hpr, genStep_of_empty { g with done := [] } l p' hpr]
      | incorrect => rw [genStep_of_incorrect g l (by rw [hpr]), genStep_of_incorrect { g with done := [] } l (by rw [hpr])]
    | ok v =>
      obtain ⟨h, text⟩ := v
      have h1 : h ≠ 1 := Nat.ne_of_gt (hnr h text (by rw [hpr]))
      rw [genStep_of_parse g l p' h text hpr, genStep_of_parse { g with done := [] } l p' h text hpr,
        addItem_child _ h text l h1, addItem_child _ h text l h1]
      cases g.cur with
      | none => rfl
      | some z =>
        dsimp only
        cases dfs h text z with
        | none => rfl
        | some z' => exact ⟨rfl, rfl⟩

theorem genStep_root (g : GState) (l : Bytes)
    (hr : (∃ text, (parse g.p l).2 = .ok (1, text)) ∨ (parse g.p l).2 = .error .emptyText) :
    (match genStep g l with
     | .error e => e = .emptyText ∧ genStep { p := g.p } l = .error .emptyText
     | .ok g' => genStep { p := g.p } l = .ok { g' with done := [] } ∧ g'.done = g.finishCur) := by
  cases hpr : parse g.p l with
  | mk p' r =>
    rw [hpr] at hr
    rcases hr with ⟨text, hr⟩ | hr
    · simp only at hr
      subst hr
      rw [genStep_of_parse g l p' 1 text hpr, genStep_of_parse { p := g.p } l p' 1 text hpr]
      exact ⟨rfl, rfl⟩
    · simp only at hr
      subst hr
      rw [genStep_of_empty g l p' hpr, genStep_of_empty { p := g.p } l p' hpr]
      exact ⟨rfl, rfl⟩

theorem genBlock_ok (pm : PState) (block : List Bytes) (gb : GState) (h : genRows { p := pm } block = (gb, none)) :
    genBlock pm block = (gb.p, .ok gb.root) := by
  simp only [genBlock, h, GState.root]
  rfl

theorem sim_closed (g : GState) (st : SplitSt) (hs : Sim g st) :
    genBlocksSeq {} (st.out ++ [st.block]) = (g.finishCur, none, g.p) := by
  obtain ⟨⟨pm, hout, hblk⟩, _⟩ := hs
  rw [genBlocksSeq_append hout]
  simp only [genBlocksSeq, genBlock_ok pm st.block _ hblk]
  rw [finishCur_eq]
  simp [GState.root]

theorem sim_out_after_root (g : GState) (st : SplitSt) (hs : Sim g st) :
    genBlocksSeq {} (if st.block.isEmpty then st.out else st.out ++ [st.block]) = (g.finishCur, none, g.p) := by
  by_cases he : st.block.isEmpty = true
  · obtain ⟨⟨pm, hout, hblk⟩, _⟩ := hs
    rw [show st.block = [] by simpa using he] at hblk
    simp only [genRows, Prod.mk.injEq, and_true] at hblk
    have hc : none = g.cur := congrArg GState.cur hblk
    have hp : pm = g.p := congrArg GState.p hblk
    rw [if_pos he, hout, finishCur_eq, hp]
    simp [GState.root, ← hc]
  · rw [if_neg he]
    exact sim_closed g st hs

theorem sim_step (g : GState) (st : SplitSt) (l : Bytes) (hs : Sim g st) :
    match genStep g l with
    | .ok g' => Sim g' (splitStep st l)
    | .error e => ∃ (rs : List T) (pm : PState) (B : List Bytes) (gb : GState),
        genBlocksSeq {} (splitStep st l).out = (rs, none, pm) ∧ (splitStep st l).block = B ++ [l] ∧
        genRows { p := pm } B = (gb, none) ∧ genStep gb l = .error e := by
  have hcls := parse_class g.p l
  rw [← hs.sharp] at hcls
  have hp' : ∀ g', genStep g l = .ok g' → (st.sharp || isSharpRow l) = g'.p.sharp := fun g' hok => by
    rw [genStep_p g g' l hok, (parse_frame g.p l).1, hs.sharp]
  by_cases hb : rootBeginning l (st.sharp || isSharpRow l) = true
  · have hr := genStep_root g l (hcls.1 hb)
    rw [splitStep_root st l hb]
    cases hstep : genStep g l with
    | ok g' =>
      rw [hstep] at hr
      exact ⟨⟨g.p, by rw [hr.2]; exact sim_out_after_root g st hs, by simp only [genRows, hr.1]⟩, hp' g' hstep⟩
    | error e =>
      rw [hstep] at hr
      obtain ⟨rfl, hgb⟩ := hr
      exact ⟨g.finishCur, g.p, [], { p := g.p }, sim_out_after_root g st hs, rfl, rfl, hgb⟩
  · have hbf : rootBeginning l (st.sharp || isSharpRow l) = false := by simpa using hb
    obtain ⟨⟨pm, hout, hblk⟩, _⟩ := hs
    have hnr := genStep_nonroot g l (hcls.2 hbf)
    rw [splitStep_nonroot st l hbf]
    cases hstep : genStep g l with
    | ok g' =>
      rw [hstep] at hnr
      exact ⟨⟨pm, by rw [hnr.2]; exact hout, by rw [genRows_append, hblk]; simp only [genRows, hnr.1]⟩, hp' g' hstep⟩
    | error e =>
      rw [hstep] at hnr
      exact ⟨g.done, pm, st.block, _, hout, rfl, hblk, hnr⟩

theorem sim_rows (rows : List Bytes) (g : GState) (st : SplitSt) (hs : Sim g st) :
    (match genRows g rows with
     | (g', none) => Sim g' (rows.foldl splitStep st)
     | (_, some e) => (genBlocksSeq {} (rows.foldl splitStep st).final).2.1 = some e) := by
  induction rows generalizing g st with
  | nil => exact hs
  | cons l rest ih =>
    have hstep := sim_step g st l hs
    simp only [genRows, List.foldl_cons]
    cases hg : genStep g l with
    | ok g' =>
      rw [hg] at hstep
      exact ih g' (splitStep st l) hstep
    | error e =>
      rw [hg] at hstep
      obtain ⟨rs, pm, B, gb, hout, hblk, hB, hl⟩ := hstep
      -- the failing block is sent with more rows after `l`, and fails at `l`
      obtain ⟨x, more, hfin⟩ := split_suffix rest (splitStep st l) (by rw [hblk]; simp)
      have hfail : genBlock pm ((splitStep st l).block ++ x) = (gb.p, .error e) := by
        rw [hblk, List.append_assoc]
        simp only [genBlock, genRows_append, hB, List.cons_append, List.nil_append, genRows, hl]
      simp only [hfin, genBlocksSeq_append hout, genBlocksSeq, hfail]

end Gtree
