import Gtree.Lemmas.ParseAny
import Gtree.Spec.Spelling
/-
  The rows a spelling writes: every item row parses to its (hierarchy, name), and the parser state stays within
  the spelling's invariant.
-/
namespace Gtree

/-- parser state after a bullet row indented by `m` copies of the blank `c` -/
def afterRow (st : PState) (m : Nat) (c : UInt8) : PState :=
  { st with sep := if m = 0 then none else some c, spaces := if st.spaces == 0 then m else st.spaces }

theorem afterRow_zero (st : PState) (c : UInt8) : afterRow st 0 c = { st with sep := none } := by
  have : (if st.spaces == 0 then 0 else st.spaces) = st.spaces := by
    split
    · exact (eq_of_beq ‹_›).symm
    · rfl
  rw [afterRow, if_pos rfl, this]

theorem ownAttempt_replicate (st : PState) (c : UInt8) (m : Nat) (tl : Bytes) (hsep : st.sep = none ∨ st.sep = some c) :
    ownAttempt st (List.replicate m c) tl =
      (afterRow st m c, if 2 ≤ st.spaces ∧ m % st.spaces ≠ 0 then none else some (m, tl)) := by
  cases m with
  | zero => rw [afterRow_zero, Nat.zero_mod, if_neg (fun h => h.2 rfl)]; rfl
  | succ k =>
    rw [List.replicate_succ, ownAttempt_cons st c _ tl c (by rw [presep_eq st c hsep]), if_neg (by simp),
      presep_eq st c hsep, List.length_replicate]
    by_cases h0 : st.spaces = 0
    · -- no unit known: this row's indentation becomes the unit, and is a multiple of itself
      simp [afterRow, h0]
    · -- the unit stays `st.spaces`: both sides test `2 ≤ st.spaces ∧ (k + 1) % st.spaces ≠ 0`
      have hu : (st.spaces == 0) = false := beq_false_of_ne h0
      simp only [hu, Bool.false_eq_true, if_false, afterRow, Bool.and_eq_true, decide_eq_true_eq, bne_iff_ne]
      split <;> rfl

theorem separateRow_multiple (st : PState) (c b : UInt8) (m : Nat) (tl : Bytes)
    (hc : c = sp ∨ c = tab) (hb : isBulletByte b = true) (hsep : st.sep = none ∨ st.sep = some c)
    (hsp : st.spaces = 0 ∨ m % st.spaces = 0) :
    separateRow st (List.replicate m c ++ b :: tl) = (afterRow st m c, some (m, tl)) :=
  separateRow_own st _ _ tl b (some _) (fun y hy => List.eq_of_mem_replicate hy ▸ hc) hb
    (by rw [ownAttempt_replicate st c m tl hsep, if_neg (fun ⟨h2, hm⟩ => hsp.elim (Nat.ne_zero_of_lt h2) hm)])

theorem separateRow_not_multiple (st : PState) (c b : UInt8) (m : Nat) (tl : Bytes)
    (hc : c = sp ∨ c = tab) (hb : isBulletByte b = true) (hsep : st.sep = none ∨ st.sep = some c)
    (hu : 2 ≤ st.spaces) (hmod : m % st.spaces ≠ 0) :
    (separateRow st (List.replicate m c ++ b :: tl)).2 = none :=
  separateRow_own st _ _ tl b none (fun y hy => List.eq_of_mem_replicate hy ▸ hc) hb
    (by rw [ownAttempt_replicate st c m tl hsep, if_pos ⟨hu, hmod⟩])

theorem parse_listRow (st : PState) (c b : UInt8) (m : Nat) (name : Bytes)
    (hc : c = sp ∨ c = tab) (hb : isBulletByte b = true)
    (hsep : st.sep = none ∨ st.sep = some c) (hsp : st.spaces = 0 ∨ m % st.spaces = 0)
    (hname : name ≠ []) :
    parse st (List.replicate m c ++ b :: sp :: name) =
      (afterRow st m c, .ok (calculateHierarchy (afterRow st m c) m, name)) := by
  rw [parse_list st _ (isBlank_indent_symbol c b hc (isSymbolByte_of_bullet b hb) m) (head_listRow c b m _ hc hb),
    separateRow_multiple st c b m (sp :: name) hc hb hsep hsp]
  have : trimPrefixB sp (sp :: name) = name := by simp [trimPrefixB]
  simp only [this]
  cases name with
  | nil => exact absurd rfl hname
  | cons x xs => simp

theorem parse_sharpRow (st : PState) (name : Bytes) (hne : name ≠ [])
    (h1 : name.head? ≠ some sp) (h2 : name.getLast? ≠ some sp) :
    parse st (shp :: sp :: name) = ({ st with sharp := true }, .ok (1, name)) := by
  have e : trimB sp (trimLeftB shp (sp :: name)) = name := by
    rw [trimLeftB_of_head shp _ (by simp [sp, shp]), show trimB sp (sp :: name) = trimB sp name by simp [trimB, trimLeftB]]
    exact trimB_of_ends sp name h1 h2
  rw [parse_heading, e]
  cases name with
  | nil => exact absurd rfl hne
  | cons x xs => rfl

/-- what the parser has learnt stays within what the spelling uses -/
structure PInv (s : Spelling) (p : PState) : Prop where
  sep : p.sep = none ∨ p.sep = some s.c
  spaces : p.spaces = 0 ∨ p.spaces = s.unit

theorem parse_listRow_spelling (s : Spelling) (p : PState) (i k : Nat) (n : Bytes)
    (hc : s.c = sp ∨ s.c = tab) (hunit : 1 ≤ s.unit)
    (hb : s.bullet i = hy ∨ s.bullet i = ast ∨ s.bullet i = pls)
    (hinv : PInv s p) (hfirst : p.spaces = 0 → k ≤ 1) (hn : n ≠ []) :
    ∃ p', parse p (listRow s i k n) = (p', .ok (k + 1 + (if p.sharp then 1 else 0), n)) ∧
      PInv s p' ∧ p'.sharp = p.sharp ∧ (p'.spaces = 0 → p.spaces = 0 ∧ k = 0) := by
  have hsp : p.spaces = 0 ∨ (k * s.unit) % p.spaces = 0 :=
    hinv.spaces.imp_right fun h => by rw [h]; exact Nat.mul_mod_left k s.unit
  have hparse := parse_listRow p s.c (s.bullet i) (k * s.unit) n hc ((isBulletByte_iff _).mpr hb) hinv.sep hsp hn
  have hu0 : s.unit ≠ 0 := Nat.ne_of_gt hunit
  by_cases hk : k = 0
  · subst hk
    rw [Nat.zero_mul, afterRow_zero] at hparse
    refine ⟨{ p with sep := none }, ?_, ⟨Or.inl rfl, hinv.spaces⟩, rfl, fun h => ⟨h, rfl⟩⟩
    rw [listRow, Nat.zero_mul, hparse, calcH_unindented _ 0 rfl]
  · have hspaces : (afterRow p (k * s.unit) s.c).spaces = s.unit := by
      show (if p.spaces == 0 then k * s.unit else p.spaces) = s.unit
      rcases hinv.spaces with h | h
      · rw [h, Nat.le_antisymm (hfirst h) (Nat.pos_of_ne_zero hk)]; exact Nat.one_mul _
      · rw [h, if_neg (by simpa using hu0)]
    have hsepc : (afterRow p (k * s.unit) s.c).sep = some s.c := by
      simp [afterRow, Nat.mul_ne_zero hk hu0]
    refine ⟨afterRow p (k * s.unit) s.c, ?_, ⟨Or.inr hsepc, Or.inr hspaces⟩, rfl, fun h => absurd (hspaces ▸ h) hu0⟩
    rw [listRow, hparse, calcH_sep _ s.c _ hsepc (by rw [hspaces]; exact hu0), hspaces, Nat.mul_div_cancel k hunit]; rfl

/-- "`k` of `h`": the indentation level of the list row `rowOf` writes for an item of hierarchy `h` (`none`: a heading
    row); `rowOf_eq` reads `rowOf` through it -/
def kOf (s : Spelling) (h : Nat) : Option Nat :=
  if s.sharp then (if h = 1 then none else some (h - 2)) else some (h - 1)

/-- "first indented one": the first indented list row among the items is indented by exactly one level (the parser
    takes the indentation of the first indented row it sees for the unit).  Needed while no unit is known;
    `fio_items` (RoundTrip.lean) has it for the items of a forest. -/
def FIO (s : Spelling) : List (Nat × Bytes) → Prop
  | [] => True
  | (h, _) :: r => match kOf s h with
    | none => FIO s r
    | some k => if k = 0 then FIO s r else k = 1

/-- list rows of a heading-rooted spelling are parsed in heading mode -/
def SharpInv (s : Spelling) (p : PState) (its : List (Nat × Bytes)) : Prop :=
  if s.sharp then (p.sharp = true ∨ ∀ h n r, its = (h, n) :: r → h = 1) else p.sharp = false

theorem rowOf_eq (s : Spelling) (i h : Nat) (n : Bytes) :
    rowOf s i h n = match kOf s h with
      | none => shp :: sp :: n
      | some k => listRow s i k n := by
  unfold rowOf kOf
  split
  · split <;> rfl
  · rfl

theorem kOf_none (s : Spelling) (h : Nat) (hk : kOf s h = none) : s.sharp = true ∧ h = 1 := by
  unfold kOf at hk
  split at hk
  · split at hk
    · exact ⟨‹_›, ‹_›⟩
    · cases hk
  · cases hk

theorem kOf_some (s : Spelling) (h k : Nat) (hk : kOf s h = some k) :
    k = h - (1 + if s.sharp then 1 else 0) ∧ (s.sharp = true → h ≠ 1) := by
  unfold kOf at hk
  cases hs : s.sharp
  · simp only [hs, Bool.false_eq_true, if_false, Option.some.injEq] at hk
    exact ⟨hk ▸ rfl, fun h => Bool.noConfusion h⟩
  · simp only [hs, if_true] at hk
    split at hk
    · cases hk
    · cases hk; exact ⟨rfl, fun _ => ‹_›⟩

theorem kOf_level (s : Spelling) (h k : Nat) (hk : kOf s h = some k) (hh : 1 ≤ h) :
    k + 1 + (if s.sharp then 1 else 0) = h := by
  obtain ⟨rfl, h1⟩ := kOf_some s h k hk
  cases hs : s.sharp
  · exact Nat.sub_add_cancel hh
  · exact Nat.sub_add_cancel (Nat.lt_of_le_of_ne hh (Ne.symm (h1 hs)) : 2 ≤ h)

theorem sharpInv_of_eq (s : Spelling) (p : PState) (its : List (Nat × Bytes)) (h : p.sharp = s.sharp) :
    SharpInv s p its := by
  unfold SharpInv
  split
  · exact Or.inl (h.trans ‹_›)
  · rw [h]; simpa using ‹¬ s.sharp = true›

theorem parse_itemRow (s : Spelling) (p : PState) (i h : Nat) (n : Bytes) (rest : List (Nat × Bytes))
    (hc : s.c = sp ∨ s.c = tab) (hunit : 1 ≤ s.unit)
    (hb : s.bullet i = hy ∨ s.bullet i = ast ∨ s.bullet i = pls)
    (hh : 1 ≤ h) (hname : NameOk s h n)
    (hinv : PInv s p) (hfio : p.spaces = 0 → FIO s ((h, n) :: rest)) (hsharp : SharpInv s p ((h, n) :: rest)) :
    ∃ p', parse p (rowOf s i h n) = (p', .ok (h, n)) ∧ PInv s p' ∧
      (p'.spaces = 0 → FIO s rest) ∧ SharpInv s p' rest := by
  rw [rowOf_eq]
  cases hk : kOf s h with
  | none =>
    obtain ⟨hs, rfl⟩ := kOf_none s h hk
    refine ⟨{ p with sharp := true },
      parse_sharpRow p n hname.nonempty (hname.sharpHead hs rfl) (hname.sharpLast hs rfl),
      ⟨hinv.sep, hinv.spaces⟩, fun h0 => ?_, sharpInv_of_eq s _ rest hs.symm⟩
    simpa [FIO, hk] using hfio h0
  | some k =>
    have h1 := (kOf_some s h k hk).2
    have hps : p.sharp = s.sharp := by
      unfold SharpInv at hsharp
      split at hsharp
      · rename_i hs
        rw [hs]
        exact hsharp.resolve_right fun he => h1 hs (he _ _ _ rfl)
      · rw [hsharp]; simpa using ‹¬ s.sharp = true›
    have hlev : k + 1 + (if p.sharp then 1 else 0) = h := hps ▸ kOf_level s h k hk hh
    have hfirst : p.spaces = 0 → k ≤ 1 := by
      intro h0
      have := hfio h0
      simp only [FIO, hk] at this
      split at this
      · exact ‹k = 0› ▸ Nat.zero_le 1
      · exact Nat.le_of_eq this
    obtain ⟨p', hp, hinv', hsh', hsp'⟩ := parse_listRow_spelling s p i k n hc hunit hb hinv hfirst hname.nonempty
    refine ⟨p', by rw [hp, hlev], hinv', fun h0 => ?_, sharpInv_of_eq s p' rest (hsh'.trans hps)⟩
    obtain ⟨hp0, hk0⟩ := hsp' h0
    simpa [FIO, hk, hk0] using hfio hp0

end Gtree
