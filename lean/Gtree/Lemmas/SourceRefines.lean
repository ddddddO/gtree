import Gtree.Generated.Source
import Gtree.Lemmas.GoStrings
import Gtree.Lemmas.ParseAny
import Gtree.Model.Parser
import Gtree.Model.Split
import Gtree.Model.Spread
import Gtree.Model.Programmable
import Gtree.Model.Grow
import Gtree.Model.MkOps
/-
  The definitions translated from /repo's sources (`Generated/Source.lean`, regenerated on every run)
  compute what the hand-written model computes: `Parser.Parse` and its helpers, the splitter's
  block-beginning predicate, the generator's error mapping, the helpers of node.go and file_considerer.go,
  the verifier's verdict, the accessors of `WalkerNode`, `validateTreeRoot`.
-/
namespace Gtree
open Gtree.Go

/-- the Go parser value that a model state stands for -/
def toSrc (st : PState) : Src.Parser :=
  { isSharpRoot := st.sharp, spaces := Int.ofNat st.spaces, sep := match st.sep with | none => [] | some c => [c] }

def errSrc : PErr → Src.Err
  | .blank => .ErrBlankLine
  | .emptyText => .ErrEmptyText
  | .incorrect => .ErrIncorrectFormat

/-- (`*Markdown`, `error`) as `Parse` returns them -/
def resSrc : Except PErr (Nat × Bytes) → Option Src.Markdown × Option Src.Err
  | .error e => (none, some (errSrc e))
  | .ok (h, t) => (some { hierarchy := Int.ofNat h, text := t }, none)

/-- what the loop of `separateRow` makes of the model's verdict on the rounds so far (the result of `attempt` or `separateRowAux`):
    `return`, or go on with error `e` -/
def attemptSrc (e : Option Src.Err) :
    PState × Option (Nat × Bytes) → Ctl (Option Src.Err × Src.Parser) (Src.Parser × (Int × Bytes × Option Src.Err))
  | (st', some (n, after)) => .ret (toSrc st', (Int.ofNat n, after, none))
  | (st', none) => .next (e, toSrc st')

@[simp] theorem err_none_bne_none : ((none : Option Src.Err) != none) = false := rfl
@[simp] theorem err_some_bne_none (x : Src.Err) : ((some x : Option Src.Err) != none) = true := rfl

theorem beq_of_iff {α β : Type} [BEq α] [LawfulBEq α] [BEq β] [LawfulBEq β] {a b : α} {c d : β}
    (h : a = b ↔ c = d) : (a == b) = (c == d) := by
  rw [Bool.eq_iff_iff]; simpa using h

theorem len_beq_zero {α : Type} (t : List α) : (len t == 0) = t.isEmpty := by
  cases t with
  | nil => rfl
  | cons x xs => exact beq_eq_false_iff_ne.mpr (Int.natCast_ne_zero.mpr (Nat.succ_ne_zero _))

theorem len_bne_zero {α : Type} (l : List α) : (len l != 0) = !l.isEmpty := by
  rw [bne, len_beq_zero]

theorem natCast_beq (a b : Nat) : ((a : Int) == (b : Int)) = (a == b) := beq_of_iff Int.ofNat_inj

theorem isRoot_of_hierarchy {n : Src.Node} {h : Nat} (hh : n.hierarchy = (h : Int)) : Src.Node.isRoot n = (h == 1) := by
  rw [Src.Node.isRoot, hh]
  exact natCast_beq h 1

theorem Src.hasChild_eq (n : Src.Node) : Src.Node.hasChild n = !n.children.isEmpty := by
  rw [Src.Node.hasChild]
  cases n.children with
  | nil => rfl
  | cons c cs => exact decide_eq_true (Int.ofNat_lt.mpr (Nat.succ_pos _))

theorem validateSpaces_src (a : Bool) (b : Bytes) (k n : Nat) :
    Src.Parser.validateSpaces { isSharpRoot := a, spaces := (k : Int), sep := b } (n : Int) =
      if k ≤ 1 then none else if n % k != 0 then some .ErrIncorrectFormat else none := by
  have h1 : ((k : Int) ≤ 1) ↔ k ≤ 1 := Int.ofNat_le
  have h0 : (((n % k : Nat) : Int) != 0) = (n % k != 0) := congrArg not (natCast_beq _ 0)
  simp only [Src.Parser.validateSpaces, Go.mod, ← Int.ofNat_tmod, h1, h0, decide_eq_true_eq]

theorem validateSpaces_zero (p : Src.Parser) : Src.Parser.validateSpaces p 0 = none := by
  simp [Src.Parser.validateSpaces, Go.mod]

/-- the result of `separateRow` as the model gives it -/
def sepRowSrc (st : PState) (row : Bytes) : Src.Parser × (Int × Bytes × Option Src.Err) :=
  match separateRow st row with
  | (st', some (n, after)) => (toSrc st', (Int.ofNat n, after, none))
  | (st', none) => (toSrc st', (0, [], some .ErrIncorrectFormat))

theorem rounds_are_separateRowAux (row : Bytes)
    (F : Bytes → (Option Src.Err × Src.Parser) → Ctl (Option Src.Err × Src.Parser) (Src.Parser × (Int × Bytes × Option Src.Err)))
    (hF : ∀ s e st, F [s] (e, toSrc st) = attemptSrc (some .ErrIncorrectFormat) (attempt st row s))
    (ss : List UInt8) (e : Option Src.Err) (st : PState) :
    forRange (ss.map ([·])) (e, toSrc st) F =
      attemptSrc (if ss.isEmpty then e else some .ErrIncorrectFormat) (separateRowAux st row ss) := by
  induction ss generalizing e st with
  | nil => rfl
  | cons s ss ih =>
    rw [List.map_cons, forRange, hF, separateRowAux]
    rcases attempt st row s with ⟨st', _ | ⟨n, after⟩⟩
    · dsimp only [attemptSrc]
      rw [ih]
      cases ss <;> rfl
    · rfl

/-- `if p.sep == "" { p.sep = sep }`: fixed before or fixed now, there is a separator from here on -/
theorem fixSep_src (st : PState) (c : UInt8) (sep : Bytes) (h : sep = [c]) :
    let st1 := if st.sep.isNone = true then { st with sep := some c } else st
    let p1 := if ((toSrc st).sep == []) = true then { toSrc st with sep := sep } else toSrc st
    p1 = toSrc st1 ∧ p1.sep = [st1.sep.getD c] := by
  subst h
  rcases st with ⟨_, _, _ | d⟩ <;> exact ⟨rfl, rfl⟩

/-- `if spaceCount > 0 && p.spaces == 0 { p.spaces = spaceCount }` -/
theorem fixSpaces_src (st : PState) (n : Nat) :
    (if (decide ((n : Int) > 0) && (toSrc st).spaces == 0) = true then { toSrc st with spaces := n } else toSrc st) =
      toSrc (if (decide (n > 0) && st.spaces == 0) = true then { st with spaces := n } else st) := by
  rw [apply_ite toSrc]
  exact ite_congr (by simp [toSrc]) (fun _ => rfl) fun _ => rfl

theorem separateRow_src (st : PState) (row : Bytes) :
    Src.Parser.separateRow (toSrc st) row = sepRowSrc st row := by
  unfold Src.Parser.separateRow sepRowSrc separateRow
  extract_lets +onlyGivenNames err
  rw [show Src.listSymbols = listSymbols.map ([·]) from rfl, rounds_are_separateRowAux row _ ?round]
  · rcases separateRowAux st row listSymbols with ⟨st', _ | ⟨n, after⟩⟩ <;> rfl
  · -- one round is `attempt`
    intro s e st
    rw [attempt, strings_Cut_single]
    rcases cut s row with _ | ⟨_ | ⟨c, rest⟩, after⟩
    · -- the symbol does not occur: `continue`
      rfl
    · -- nothing before the symbol: the separator is forgotten, 0 blanks always validate
      simp only [len_bne_zero, List.isEmpty_nil, Bool.not_true, Bool.false_eq_true, ↓reduceIte, BEq.rfl,
        validateSpaces_zero]
      rfl
    · -- `before = c :: rest`. The `let`s stay folded (unfolded, the body is some ten times its size) and are taken out of
      -- the goal under names, Go's in the order of the assignments (`p1`, `p2`: `p` with the separator, then the unit,
      -- fixed; `k0`, `k`: `spaceCount` as counted, then as used; `e'`: `e`), then the model's: what is left on either side
      -- is a small tree of tests over these names, and each Go variable is shown to be its counterpart in the model in turn
      simp -zeta only [Bool.not_true, Bool.false_eq_true, ↓reduceIte, len_bne_zero, List.isEmpty_cons, Bool.not_false]
      extract_lets _ sep _ p1 k0 _ _ k _ p2 e' err' st1 d n st2
      -- Go tests the first character (`strings.Split(before, "")[0]`), the model the first byte
      rw [show (sep == Src.space) = _ from first_char_eq c sp rest (by decide),
        show (sep == Src.tab) = _ from first_char_eq c tab rest (by decide)]
      cases hcc : (c == sp || c == tab)
      · -- the row does not begin with a blank or a tab: `continue`
        rfl
      · have hc : c < 0x80 := by rcases (Bool.or_eq_true _ _).mp hcc with h | h <;> rw [eq_of_beq h] <;> decide
        obtain ⟨hp1, hd⟩ : p1 = toSrc st1 ∧ p1.sep = [d] := fixSep_src st c sep (first_char_ascii c rest hc)
        have hk0 : k0 = ↑n := (congrArg (strings_Count _) hd).trans (strings_Count_single d _)
        have hk : k = ↑n := (if_neg (by rw [hd]; exact Bool.false_ne_true)).trans hk0
        -- `p1`, `k0`, `k` become these values, inside the `let`s after them as well
        clear_value p1 k0 k
        subst hp1 hk0 hk
        have hp2 : p2 = toSrc st2 := fixSpaces_src st1 n
        clear_value p2
        subst hp2
        have he : e' = _ := validateSpaces_src st2.sharp _ st2.spaces n
        rw [hd, show err' = e' from rfl, he,
          show ((n : Int) != len (c :: rest)) = (n != (c :: rest).length) from congrArg not (natCast_beq n _)]
        -- the same three tests on both sides now (`Nat.decLe` decides the second): in each case both sides compute
        cases n != (c :: rest).length
        · cases Nat.decLe st2.spaces 1
          · cases n % st2.spaces != 0 <;> rfl
          · rfl
        · rfl

theorem calculateHierarchy_src (st : PState) (n : Nat) :
    Src.Parser.calculateHierarchy (toSrc st) (n : Int) = ((calculateHierarchy st n : Nat) : Int) := by
  obtain ⟨a, k, s⟩ := st
  have h0 : ((toSrc ⟨a, k, s⟩).spaces == 0) = (k == 0) := natCast_beq k 0
  have hs : ((toSrc ⟨a, k, s⟩).sep == []) = s.isNone := by cases s <;> rfl
  rw [Src.Parser.calculateHierarchy, calculateHierarchy, h0, hs]
  -- the same two tests on both sides: in each case both sides compute (`Int.tdiv` and `+` on `Int.ofNat`s)
  cases (k == 0 || s.isNone) <;> cases a <;> rfl

theorem isBlank_src (p : Src.Parser) (row : Bytes) : Src.Parser.isBlank p row = isBlank row := by
  unfold Src.Parser.isBlank
  exact len_TrimSpace_eq_zero row

/-- `Parser.Parse` of markdown/parser.go -/
theorem Parse_src (st : PState) (row : Bytes) :
    Src.Parser.Parse (toSrc st) row = (toSrc (parse st row).1, resSrc (parse st row).2) := by
  have hspace : Src.space = [sp] := rfl
  unfold Src.Parser.Parse
  rw [isBlank_src]
  cases hb : isBlank row
  · rw [if_neg Bool.false_ne_true, show Src.sharp = [shp] from rfl, strings_HasPrefix_single]
    -- each test is decided before the branch under it is touched, so that every step sees one branch of `Parse` only
    cases hx : row.head? == some shp
    · rw [if_neg Bool.false_ne_true, parse_list st row hb (ne_of_beq_false hx), separateRow_src, sepRowSrc]
      rcases separateRow st row with ⟨st', _ | ⟨n, afterText⟩⟩
      · rfl
      · simp only [err_none_bne_none, Bool.false_eq_true, ↓reduceIte, hspace, strings_TrimPrefix_single, len_beq_zero,
          Int.ofNat_eq_natCast, calculateHierarchy_src]
        cases (trimPrefixB sp afterText).isEmpty <;> rfl
    · obtain ⟨xs, rfl⟩ := List.head?_eq_some_iff.mp (eq_of_beq hx)
      rw [if_pos rfl, parse_heading]
      -- `strings.Cut` finds the `#` at once
      simp only [strings_Cut_single, cut, BEq.rfl, Bool.not_true, Bool.false_eq_true, ↓reduceIte, hspace,
        strings_TrimLeft_single, strings_Trim_single, len_beq_zero]
      cases (trimB sp (trimLeftB shp xs)).isEmpty <;> rfl
  · unfold parse
    rw [if_pos hb]
    rfl

/-- `isSharpRootRow` of input_spliter.go -/
theorem isSharpRootRow_src (l : Bytes) : Src.isSharpRootRow l = isSharpRow l := by
  unfold Src.isSharpRootRow isSharpRow
  cases l with
  | nil => rfl
  | cons x xs =>
    have h1 : (len (x :: xs) != 0) = true := len_bne_zero _
    simp only [h1, Bool.true_and, Go.slice, List.take_succ_cons, List.take_zero, List.drop_zero, List.head?_cons]
    exact beq_of_iff (by simp [shp])

theorem IsSymbol_single (x : UInt8) : Src.IsSymbol [x] = isSymbolByte x := by
  unfold Src.IsSymbol isSymbolByte
  simp only [Src.symbols, Src.sharp, Src.hyphen, Src.asterisk, Src.plus, List.contains_cons, List.contains_nil,
    Bool.or_false, shp, hy, ast, pls]
  have e : ∀ y : UInt8, (([x] : Bytes) == [y]) = (x == y) := fun y => beq_of_iff (by simp)
  simp only [e, Bool.or_assoc]

/-- `isRootBlockBeginning` of input_spliter.go -/
theorem isRootBlockBeginning_src (l : Bytes) (sharp : Bool) :
    Src.isRootBlockBeginning l sharp = rootBeginning l sharp := by
  unfold Src.isRootBlockBeginning rootBeginning
  rw [isSharpRootRow_src, len_beq_zero]
  cases l with
  | nil => cases sharp <;> simp [isSharpRow, startsWithSymbol]
  | cons x xs =>
    simp only [List.isEmpty_cons, Bool.false_eq_true, if_false, Go.slice, List.take_succ_cons, List.take_zero,
      List.drop_zero, IsSymbol_single, startsWithSymbol]

/-- the generator's error values, as the model names them -/
def gerrSrc : GErr → Option Src.Err
  | .emptyText => some .errEmptyText
  | .format row => some (.inputFormatError row)
  | _ => none

/-- `nodeGenerator.handleErr` of node_generator.go -/
theorem handleErr_src (g : Src.nodeGenerator) (row : Bytes) :
    Src.nodeGenerator.handleErr g (some (errSrc .emptyText)) row = gerrSrc .emptyText ∧
    Src.nodeGenerator.handleErr g (some (errSrc .incorrect)) row = gerrSrc (.format row) ∧
    Src.nodeGenerator.handleErr g (some (errSrc .blank)) row = none :=
  ⟨rfl, rfl, rfl⟩

mutual
/-- the Go node (downwards: name, hierarchy, children) that a model tree at hierarchy `h` stands for;
    the translated functions do not read `index` and the cached `brnch` -/
def toNode (h : Nat) : T → Src.Node
  | .mk n ks => { name := n, hierarchy := (h : Int), index := 0, brnch := ⟨[], []⟩, children := toNodes (h + 1) ks }
def toNodes (h : Nat) : List T → List Src.Node
  | [] => []
  | t :: ts => toNode h t :: toNodes h ts
end

theorem toNode_name (h : Nat) (t : T) : (toNode h t).name = t.name := by
  cases t with
  | mk n ks => simp [toNode, T.name]

theorem hasChild_src (h : Nat) (n : Bytes) (ks : List T) : Src.Node.hasChild (toNode h (.mk n ks)) = !ks.isEmpty := by
  rw [Src.hasChild_eq, toNode]
  cases ks <;> rfl

theorem isRoot_src (h : Nat) (t : T) : Src.Node.isRoot (toNode h t) = (h == 1) := by
  cases t with
  | mk n ks => exact isRoot_of_hierarchy (by rw [toNode])

theorem forRange_find_ret {α ρ : Type} (p : α → Bool) (g : α → ρ) (xs : List α) :
    forRange xs () (fun x (st_ : Unit) => if p x then (Ctl.ret (g x) : Ctl Unit ρ) else Ctl.next st_) =
      match xs.find? p with
      | some x => Ctl.ret (g x)
      | none => Ctl.next () := by
  induction xs with
  | nil => rfl
  | cons x xs ih =>
    simp only [forRange, List.find?_cons]
    cases p x with
    | true => rfl
    | false => exact ih

theorem forRange_any {α : Type} (P : α → Bool) (xs : List α) :
    (match Go.forRange xs () (fun x (_ : Unit) => if P x then (Go.Ctl.ret true : Go.Ctl Unit Bool) else Go.Ctl.next ()) with
      | Go.Ctl.ret r_ => r_
      | Go.Ctl.brk _ | Go.Ctl.next _ => false) = xs.any P := by
  rw [forRange_find_ret P fun _ => true, Bool.eq_iff_iff, List.any_eq_true, ← List.find?_isSome]
  cases xs.find? P <;> simp

/-- `fileConsiderer.isFile` of file_considerer.go -/
theorem isFile_src (exts : List Bytes) (h : Nat) (n : Bytes) (ks : List T) :
    Src.fileConsiderer.isFile ⟨exts⟩ (toNode h (.mk n ks)) = isFileNode exts n (!ks.isEmpty) := by
  unfold Src.fileConsiderer.isFile isFileNode
  rw [hasChild_src]
  cases !ks.isEmpty with
  | true => rfl
  | false => exact forRange_any (fun e => hasSuffix n e) exts

theorem toNodes_find (h : Nat) (x : Bytes) (ks : List T) :
    (toNodes h ks).find? (fun c => x == c.name) = (ks.find? (fun k => x == k.name)).map (toNode h) := by
  induction ks with
  | nil => simp [toNodes]
  | cons k ks ih =>
    simp only [toNodes, List.find?_cons, toNode_name]
    cases x == k.name with
    | true => rfl
    | false => exact ih

theorem splitAtName_find (x : Bytes) (ks : List T) :
    (splitAtName x ks).map (fun p => p.2.1) = ks.find? (fun k => x == k.name) := by
  induction ks with
  | nil => simp [splitAtName]
  | cons k ks ih =>
    simp only [splitAtName, List.find?_cons, show (x == k.name) = (k.name == x) from BEq.comm]
    cases k.name == x with
    | true => rfl
    | false =>
      simp only [Bool.false_eq_true, if_false]
      rw [← ih]
      cases splitAtName x ks with
      | none => rfl
      | some p => obtain ⟨l, c, r⟩ := p; rfl

/-- `Node.findChildByText` of node.go -/
theorem findChildByText_is_splitAtName (h : Nat) (n x : Bytes) (ks : List T) :
    Src.Node.findChildByText (toNode h (.mk n ks)) x = ((splitAtName x ks).map (fun p => p.2.1)).map (toNode (h + 1)) := by
  unfold Src.Node.findChildByText
  rw [forRange_find_ret (fun (c : Src.Node) => x == c.name) (fun c => some c), splitAtName_find]
  simp only [toNode, toNodes_find]
  cases ks.find? (fun k => x == k.name) <;> rfl

/-- `Node.isDirectlyUnder` of node.go -/
theorem isDirectlyUnder_src (h h' : Nat) (t t' : T) :
    Src.Node.isDirectlyUnder (toNode h t) (some (toNode h' t')) = (h == h' + 1) ∧
    Src.Node.isDirectlyUnder (toNode h t) none = false := by
  refine ⟨?_, rfl⟩
  cases t with
  | mk n ks =>
    cases t' with
    | mk n' ks' =>
      simp only [Src.Node.isDirectlyUnder, toNode]
      exact natCast_beq h (h' + 1)

theorem forRange_concat {ρ : Type} (xs : List Bytes) (acc : Bytes) :
    forRange xs acc (fun v (st_ : Bytes) => (Ctl.next (st_ + v) : Ctl Bytes ρ)) = Ctl.next (acc ++ xs.flatten) := by
  induction xs generalizing acc with
  | nil => simp [forRange]
  | cons x xs ih =>
    simp only [forRange, List.flatten_cons]
    rw [ih (acc + x)]
    show Ctl.next ((acc ++ x) ++ xs.flatten) = Ctl.next (acc ++ (x ++ xs.flatten))
    rw [List.append_assoc]

/-- `Node.setBranch` of node.go -/
theorem setBranch_src (n : Src.Node) (parts : List Bytes) :
    (Src.Node.setBranch n parts).1 = { n with brnch := { n.brnch with value := parts.flatten } } := by
  unfold Src.Node.setBranch
  simp only [forRange_concat, List.nil_append]

/-- `defaultVerifierSimple.handleErr` of simple_tree_verifier.go -/
theorem verifier_handleErr_src (strict : Bool) (dir : Bytes) (extra missing : List Bytes) :
    Src.defaultVerifierSimple.handleErr ⟨strict, dir⟩ extra missing =
      if (strict && !extra.isEmpty) || !missing.isEmpty then some (Src.Err.verifyError strict extra missing) else none := by
  unfold Src.defaultVerifierSimple.handleErr
  simp only [len_bne_zero]

theorem verifyOne_decision (fs : FS) (target : Bytes) (strict : Bool) (vs : List Visit) (d : VerifyDiff)
    (h : verifyRoot fs target vs = .ok d) (dir : Bytes) :
    (verifyOne fs target strict vs).isSome = (Src.defaultVerifierSimple.handleErr ⟨strict, dir⟩ d.extra d.missing).isSome := by
  rw [verifier_handleErr_src]
  simp only [verifyOne, h]
  split <;> rfl

/-- the Go node of one grown visit, as far as `validatePath` reads it -/
def visitNode (v : Visit) : Src.Node :=
  { name := v.name, hierarchy := (v.level : Int), index := 0, brnch := ⟨v.branch, v.path⟩,
    children := if v.hasChild then [{ name := [], hierarchy := 0, index := 0, brnch := ⟨[], []⟩, children := [] }] else [] }

/-- the model's validation errors as the `fmt.Errorf` values of node.go -/
def verrSrc : VErr → Src.Err
  | .invalidName n => .Errorf [105, 110, 118, 97, 108, 105, 100, 32, 110, 111, 100, 101, 32, 110, 97, 109, 101, 58, 32, 37, 115] [n]   -- "invalid node name: %s"
  | .invalidPath p => .Errorf [105, 110, 118, 97, 108, 105, 100, 32, 112, 97, 116, 104, 58, 32, 37, 115] [p]        -- "invalid path: %s"

theorem containsAny_slash (n : Bytes) : strings_ContainsAny n [0x2F] = n.contains slash := by
  unfold strings_ContainsAny
  rw [Bool.eq_iff_iff]
  simp only [List.any_eq_true, List.contains_iff_mem, List.mem_singleton, slash]
  constructor
  · rintro ⟨b, hb, rfl⟩; exact hb
  · intro h; exact ⟨_, h, rfl⟩

theorem visitNode_isRoot (v : Visit) : Src.Node.isRoot (visitNode v) = (v.level == 1) :=
  isRoot_of_hierarchy rfl

/-- `Node.path`: a root's path is its name -/
theorem visitNode_path (v : Visit) (hroot : v.level = 1 → v.path = v.name) : Src.Node.path (visitNode v) = v.path := by
  simp only [Src.Node.path, visitNode_isRoot]
  by_cases h1 : v.level = 1
  · simpa [h1, visitNode] using (hroot h1).symm
  · simp [h1, visitNode]

/-- `Node.validatePath` of node.go -/
theorem validatePath_src (v : Visit) (hroot : v.level = 1 → v.path = v.name) :
    Src.Node.validatePath (visitNode v) = (validateVisit v).map verrSrc := by
  have hname : (visitNode v).name = v.name := rfl
  have hse : (((v.name == ([] : Bytes)) || (v.name == ([0x2E] : Bytes))) || (v.name == ([0x2E, 0x2E] : Bytes)) ||
      v.name.contains slash) = !singleElem v.name := by
    simp only [singleElem, bne, Bool.not_and, Bool.not_not, List.beq_nil_eq, Bool.or_assoc]
    rfl
  unfold Src.Node.validatePath validateVisit
  rw [visitNode_path v hroot]
  simp only [hname, containsAny_slash, fs_ValidPath, hse]
  cases singleElem v.name
  · rfl
  · by_cases h2 : fsValidPath v.path = true <;> simp [h2, verrSrc]

/-- the accessors of `WalkerNode` (simple_tree_walker.go, node.go) -/
theorem walkerNode_src (v : Visit) (hroot : v.level = 1 → v.path = v.name) :
    Src.WalkerNode.Name ⟨visitNode v⟩ = v.name ∧
    Src.WalkerNode.Branch ⟨visitNode v⟩ = v.branch ∧
    Src.WalkerNode.Level ⟨visitNode v⟩ = (v.level : Int) ∧
    Src.WalkerNode.HasChild ⟨visitNode v⟩ = v.hasChild ∧
    Src.WalkerNode.Path ⟨visitNode v⟩ = v.path ∧
    Src.WalkerNode.Row ⟨visitNode v⟩ = v.row := by
  refine ⟨rfl, rfl, rfl, ?_, visitNode_path v hroot, ?_⟩
  · rw [Src.WalkerNode.HasChild, Src.hasChild_eq, visitNode]
    cases v.hasChild <;> rfl
  · simp only [Src.WalkerNode.Row, visitNode_isRoot, Visit.row]
    cases v.level == 1
    · show (v.branch ++ [0x20]) ++ v.name = v.branch ++ sp :: v.name
      simp [sp]
    · rfl

/-- the Go node an arena node stands for: name, hierarchy and index (`validateTreeRoot` reads the hierarchy only) -/
def pnodeSrc (n : PNode) : Src.Node :=
  { name := n.name, hierarchy := (n.hierarchy : Int), index := (n.index : Int), brnch := ⟨[], []⟩, children := [] }

def sentinelSrc : Err → Option Src.Err
  | .nilNode => some .ErrNilNode
  | .notRoot => some .ErrNotRoot
  | _ => none

/-- `validateTreeRoot` of tree_handler_programmably.go -/
theorem validateTreeRoot_src (s : Store) (i : Nat) :
    Src.validateTreeRoot ((s.get? i).map pnodeSrc) = (s.validateRoot (some i)).bind sentinelSrc := by
  unfold Src.validateTreeRoot Store.validateRoot
  cases hget : s.get? i with
  | none => simp [hget, sentinelSrc]
  | some n =>
    have b : Src.Node.isRoot (pnodeSrc n) = (n.hierarchy == 1) := isRoot_of_hierarchy rfl
    by_cases h1 : n.hierarchy = 1 <;> simp [b, hget, h1, sentinelSrc]

end Gtree
