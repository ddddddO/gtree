import Gtree.Lemmas.HeapGrower
import Gtree.Lemmas.HeapSpread
/-
  The translated grower and text printer composed as the From-Markdown batch path composes them: grow (validation off),
  then print, on the same nodes.  Growing succeeds, and the printer then hands the writer the model's `textChunks` of
  every root.
-/
namespace Gtree.SrcH
open Gtree Gtree.Go

theorem grow_then_spread (dg : defaultGrowerSimple) (ds : defaultSpreaderSimple) (hv : dg.enabledValidation = false)
    (ts : List T) (h : Heap) (w : Writer) (rs : List Ptr) (fuel : Nat)
    (hr : ReprRoots h ts rs) (hnd : (ptrsKids h ts rs).Nodup) (hf : 2 * sizeList ts + 1 ≤ fuel) :
    ∃ h', defaultGrowerSimple.grow fuel h dg rs = some (h', none) ∧
      defaultSpreaderSimple.spread fuel h' w ds rs = some (writeAll w (ts.flatMap (textChunks (fmtOf dg)))) := by
  obtain ⟨h', hrun, hs, _, hrd⟩ := grow_forest_off dg hv ts h rs fuel hr hnd hf
  refine ⟨h', hrun, ?_⟩
  rw [spread_heap ds h' ts w rs fuel (ReprRoots_shape hs ts rs hr) (fuel_of_fuel2 hf), hrd, List.map_flatMap]
  rfl

end Gtree.SrcH
