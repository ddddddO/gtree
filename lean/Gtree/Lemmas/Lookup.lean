/-
  Looking a key up in one of the regenerated tables of `Generated/Facts.lean` (`key ↦ list of strings`).  Depends on no
  table, so that each facts file rests on the tables it names only.  A missing key and a key with an empty list both
  give `[]`: a `contains` test on the result cannot pass for a missing key, and no expectation lists an empty row.
-/
namespace Gtree

def lookupL (k : String) (m : List (String × List String)) : List String :=
  match m.find? (fun e => e.1 == k) with
  | some e => e.2
  | none => []

/-- what holds of every row holds of the row of `k`, which is there when the lookup gives anything (`hk`) -/
theorem lookupL_of_all {p : List String → Bool} {tbl : List (String × List String)}
    (h : tbl.all (fun e => p e.2) = true) {k : String} (hk : lookupL k tbl ≠ []) : p (lookupL k tbl) = true := by
  unfold lookupL at hk ⊢
  cases hf : tbl.find? (fun e => e.1 == k) with
  | none => simp [hf] at hk
  | some e => exact List.all_eq_true.mp h e (List.mem_of_find?_eq_some hf)

theorem lookupL_of_expected {tbl exp : List (String × List String)}
    (h : exp.all (fun e => lookupL e.1 tbl == e.2) = true) {i : Nat} {k : String} {v : List String}
    (hi : exp[i]? = some (k, v)) : lookupL k tbl = v :=
  eq_of_beq (List.all_eq_true.mp h (k, v) (List.mem_of_getElem? hi))

end Gtree
