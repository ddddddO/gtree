import Gtree.Generated.Facts
import Gtree.Lemmas.Lookup
/-
  What the simple tree is made of and in which order its operations use its parts (hand-written expectation), against
  what the fact extractor found in simple_tree*.go on this run: `newTreeSimple` builds exactly the types whose methods
  the heap-mode theorems are about, and every operation of *treeSimple calls them as grow-then-use.  Likewise the
  entry points (tree.go, tree_handler*.go) and the operations of *treePipeline (pipeline_tree.go).
-/
namespace Gtree

/-- field of treeSimple ↦ (its factory, the factory's arguments, the constructors the factory may call) -/
def expectedParts : List (String × String × List String × List String) :=
  [("grower", "growerFactory", ["cfg.lastNodeFormat", "cfg.intermedialNodeFormat", "cfg.dryrun", "cfg.encode"],
      ["newNopGrowerSimple", "newGrowerSimple"]),
   ("spreader", "spreaderFactory", ["cfg.encode", "cfg.dryrun", "cfg.fileExtensions"],
      ["newColorizeSpreaderSimple", "newSpreaderSimple"]),
   ("mkdirer", "mkdirerFactory", ["cfg.targetDir", "cfg.fileExtensions"], ["newMkdirerSimple"]),
   ("verifier", "verifierFactory", ["cfg.targetDir", "cfg.strictVerify"], ["newVerifierSimple"]),
   ("growSpreader", "growSpreaderFactory", ["cfg.lastNodeFormat", "cfg.intermedialNodeFormat"], ["newGrowSpreaderSimple"]),
   ("walker", "walkerFactory", [], ["newWalkerSimple"])]

def partOk (e : String × String × List String × List String) : Bool :=
  lookupL e.1 Facts.treeSimpleFields == e.2.1 :: e.2.2.1 &&
  lookupL e.2.1 Facts.factoryCtors == e.2.2.2

/-- constructor ↦ what it returns (a struct literal's type, or →f when it delegates) -/
def expectedCtors : List (String × List String) :=
  [("newGrowerSimple", ["defaultGrowerSimple"]),
   ("newNopGrowerSimple", ["nopGrowerSimple"]),
   ("newSpreaderSimple", ["→newJSONSpreaderSimple", "→newYAMLSpreaderSimple", "→newTOMLSpreaderSimple", "defaultSpreaderSimple"]),
   ("newColorizeSpreaderSimple", ["colorizeSpreaderSimple", "defaultSpreaderSimple"]),
   ("newMkdirerSimple", ["defaultMkdirerSimple"]),
   ("newVerifierSimple", ["defaultVerifierSimple"]),
   ("newGrowSpreaderSimple", ["defaultGrowSpreaderSimple", "defaultGrowerSimple"]),
   ("newWalkerSimple", ["defaultWalkerSimple"])]

def ctorOk (e : String × List String) : Bool := lookupL e.1 Facts.ctorReturns == e.2

/-- type ↦ the methods the heap-mode theorems are about, which must be declared on that type -/
def expectedMethods : List (String × List String) :=
  [("defaultGrowerSimple", ["grow", "assemble", "assembleBranch", "assembleBranchDirectly", "assembleBranchIndirectly",
      "assembleBranchFinally", "enableValidation"]),
   ("defaultSpreaderSimple", ["spread", "spreadBranch"]),
   ("colorizeSpreaderSimple", ["spread", "spreadBranch", "colorize", "summary"]),
   ("defaultMkdirerSimple", ["mkdir", "isExistRoot", "makeDirectoriesAndFiles", "mkdirAll", "mkfile"]),
   ("defaultVerifierSimple", ["verify", "verifyRoot", "fillDirsMarkdown", "handleErr"]),
   ("defaultGrowSpreaderSimple", ["growAndSpread", "assembleAndPrint"]),
   ("defaultWalkerSimple", ["walk", "walkNode"])]

def methodsOk (e : String × List String) : Bool :=
  e.2.all (fun m => (lookupL e.1 Facts.simpleMethods).contains m)

/-- operation of *treeSimple ↦ the calls on its parts, in source order -/
def expectedCalls : List (String × List String) :=
  [("mkdir", ["grower.enableValidation", "grower.grow", "spreader.spread", "mkdirer.mkdir"]),
   ("mkdirProgrammably", ["grower.enableValidation", "grower.grow", "spreader.spread", "mkdirer.mkdir"]),
   ("verify", ["grower.enableValidation", "grower.grow", "verifier.verify"]),
   ("verifyProgrammably", ["grower.enableValidation", "grower.grow", "verifier.verify"]),
   ("walk", ["grower.grow", "walker.walk"]),
   ("walkProgrammably", ["grower.grow", "walker.walk"]),
   ("walkIterProgrammably", ["grower.grow", "walker.walkIter"]),
   ("outputProgrammably", ["grower.grow", "spreader.spread", "growSpreader.growAndSpread"]),
   ("output", ["grower.grow", "spreader.spread", "spreader.spreadIter", "grower.growIter"])]

def callsOk (e : String × List String) : Bool := lookupL e.1 Facts.treeSimpleCalls == e.2

theorem simple_tree_is_made_of_the_translated_parts :
    expectedParts.all partOk = true ∧ expectedCtors.all ctorOk = true ∧ expectedMethods.all methodsOk = true := by
  decide +kernel

/-- row by row, the calls of each operation of `*treeSimple` are those of `expectedCalls`, in source order: the grower
    first, then the stage that uses the branches (`output` lists its all-at-once branch and then its iterator branch) -/
theorem simple_tree_operations_grow_then_use :
    expectedCalls.all callsOk = true ∧ Facts.treeSimpleCalls.length = expectedCalls.length := by decide +kernel

/-- `tree_calls 4 rfl`: what row 4 of `expectedCalls` says -/
theorem tree_calls (i : Nat) {op : String} {calls : List String} (h : expectedCalls[i]? = some (op, calls)) :
    lookupL op Facts.treeSimpleCalls = calls :=
  lookupL_of_expected simple_tree_operations_grow_then_use.1 h

theorem tree_ctors (i : Nat) {ctor : String} {returns : List String} (h : expectedCtors[i]? = some (ctor, returns)) :
    lookupL ctor Facts.ctorReturns = returns :=
  lookupL_of_expected simple_tree_is_made_of_the_translated_parts.2.1 h

theorem tree_parts (i : Nat) {field factory : String} {args ctors : List String}
    (h : expectedParts[i]? = some (field, factory, args, ctors)) :
    lookupL field Facts.treeSimpleFields = factory :: args ∧ lookupL factory Facts.factoryCtors = ctors := by
  have := List.all_eq_true.mp simple_tree_is_made_of_the_translated_parts.1 _ (List.mem_of_getElem? h)
  simpa only [partOk, Bool.and_eq_true, beq_iff_eq] using this

/-- exported entry point ↦ the operation it calls on the tree `initializeTree(cfg)` builds -/
def expectedEntryTree : List (String × List String) :=
  [("OutputFromMarkdown", ["initializeTree.output"]), ("Output", ["initializeTree.output"]),
   ("MkdirFromMarkdown", ["initializeTree.mkdir"]), ("Mkdir", ["initializeTree.mkdir"]),
   ("VerifyFromMarkdown", ["initializeTree.verify"]), ("Verify", ["initializeTree.verify"]),
   ("WalkFromMarkdown", ["initializeTree.walk"]), ("Walk", ["initializeTree.walk"]),
   ("OutputFromRoot", ["initializeTree.outputProgrammably"]), ("OutputProgrammably", ["initializeTree.outputProgrammably"]),
   ("MkdirFromRoot", ["initializeTree.mkdirProgrammably"]), ("MkdirProgrammably", ["initializeTree.mkdirProgrammably"]),
   ("VerifyFromRoot", ["initializeTree.verifyProgrammably"]), ("VerifyProgrammably", ["initializeTree.verifyProgrammably"]),
   ("WalkFromRoot", ["initializeTree.walkProgrammably"]), ("WalkProgrammably", ["initializeTree.walkProgrammably"]),
   ("WalkIterFromRoot", ["initializeTree.walkIterProgrammably"]), ("WalkIterProgrammably", ["initializeTree.walkIterProgrammably"])]

theorem entry_points_build_a_fresh_tree :
    expectedEntryTree.all (fun e => lookupL e.1 Facts.entryTree == e.2) = true ∧
    Facts.entryTree.length = expectedEntryTree.length ∧
    lookupL "initializeTree" Facts.initTree =
      ["if:cfg.massive", "return", "call:newTreePipeline", "return", "call:newTreeSimple"] := by decide +kernel

/-- operation of *treePipeline ↦ the stages it starts, its helpers, the splitter / generator constructors -/
def expectedPipelineCalls : List (String × List String) :=
  [("mkdir", ["split", "newRootGeneratorPipeline", "grower.enableValidation", "grower.grow", "spreader.spread", "t.handlePipelineErr", "mkdirer.mkdir", "t.handlePipelineErr"]),
   ("mkdirProgrammably", ["grower.enableValidation", "grower.grow", "spreader.spread", "t.handlePipelineErr", "mkdirer.mkdir", "t.handlePipelineErr"]),
   ("output", ["split", "newRootGeneratorPipeline", "grower.grow", "spreader.spread", "t.handlePipelineErr"]),
   ("outputProgrammably", ["grower.grow", "spreader.spread", "t.handlePipelineErr"]),
   ("verify", ["grower.enableValidation", "split", "newRootGeneratorPipeline", "grower.grow", "verifier.verify", "t.handlePipelineErr"]),
   ("verifyProgrammably", ["grower.enableValidation", "grower.grow", "verifier.verify", "t.handlePipelineErr"]),
   ("walk", ["split", "newRootGeneratorPipeline", "grower.grow", "walker.walk", "t.handlePipelineErr"]),
   ("walkProgrammably", ["grower.grow", "walker.walk", "t.handlePipelineErr"])]

/-- `a` is called, and before the first call of `b`; also true when `b` is not called at all (`idxOf b` is then the
    length): that `b` is called is read off `massive_operations_are_as_expected` -/
def calledBefore (a b : String) (l : List String) : Bool := l.contains a && l.idxOf a < l.idxOf b

theorem massive_operations_are_as_expected : Facts.treePipelineCalls = expectedPipelineCalls := rfl

theorem massive_operations_validate_then_grow_then_use :
    ["mkdir", "mkdirProgrammably", "verify", "verifyProgrammably"].all
      (fun op => calledBefore "grower.enableValidation" "grower.grow" (lookupL op Facts.treePipelineCalls)) = true ∧
    [("mkdir", "mkdirer.mkdir"), ("mkdirProgrammably", "mkdirer.mkdir"), ("verify", "verifier.verify"),
     ("verifyProgrammably", "verifier.verify"), ("walk", "walker.walk"), ("walkProgrammably", "walker.walk"),
     ("output", "spreader.spread"), ("outputProgrammably", "spreader.spread")].all
      (fun e => calledBefore "grower.grow" e.2 (lookupL e.1 Facts.treePipelineCalls) &&
        (lookupL e.1 Facts.treePipelineCalls).getLast? == some "t.handlePipelineErr") = true := by decide +kernel

end Gtree
