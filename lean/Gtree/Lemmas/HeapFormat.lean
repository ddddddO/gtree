import Gtree.Generated.Heap.Spread
import Gtree.Lemmas.HeapRepr
import Gtree.Model.Spread
/-
  `toFormattedNode` of the source (simple_tree_spreader.go, with `jsonNode.setChild` / `getChild`; `yamlNode` and
  `tomlNode` have the same methods), translated over two heaps — the nodes and the records handed to the encoder, the
  latter with an allocator: for every heap that holds a tree and every record with no children yet, it builds below
  that record exactly the model's formatted tree (`toFormattedKids`) — each child record is the one just appended —
  and touches no older record.
-/
namespace Gtree.SrcH
open Gtree Gtree.Go

mutual
/-- the record heap holds the formatted tree `fn` at `p`; every record of it was allocated in `[lo, n)` -/
def ReprJ (hj : HeapJ) (lo n : Nat) : FNode → Nat → Prop
  | .mk v cs, p => lo ≤ p ∧ p < n ∧ (hj p).Name = v ∧ ReprJKids hj lo n cs (hj p).Children
def ReprJKids (hj : HeapJ) (lo n : Nat) : List FNode → List Nat → Prop
  | [], ps => ps = []
  | f :: fs, ps => ∃ q qs, ps = q :: qs ∧ ReprJ hj lo n f q ∧ ReprJKids hj lo n fs qs
end

mutual
/-- `ReprJ` survives widening the allocation interval and changing the record heap outside the old interval -/
theorem ReprJ_mono {hj hj' : HeapJ} {lo lo' n n' : Nat} (hlo : lo' ≤ lo) (hle : n ≤ n')
    (hag : ∀ q, lo ≤ q → q < n → hj' q = hj q) :
    ∀ (fn : FNode) (p : Nat), ReprJ hj lo n fn p → ReprJ hj' lo' n' fn p
  | .mk v cs, p, ⟨hp0, hp, hn, hk⟩ =>
    ⟨Nat.le_trans hlo hp0, Nat.lt_of_lt_of_le hp hle, by rw [hag p hp0 hp]; exact hn,
      by rw [hag p hp0 hp]; exact ReprJKids_mono hlo hle hag cs _ hk⟩
theorem ReprJKids_mono {hj hj' : HeapJ} {lo lo' n n' : Nat} (hlo : lo' ≤ lo) (hle : n ≤ n')
    (hag : ∀ q, lo ≤ q → q < n → hj' q = hj q) :
    ∀ (fs : List FNode) (ps : List Nat), ReprJKids hj lo n fs ps → ReprJKids hj' lo' n' fs ps
  | [], _, hr => hr
  | f :: fs, _, ⟨q, qs, he, h1, h2⟩ => ⟨q, qs, he, ReprJ_mono hlo hle hag f q h1, ReprJKids_mono hlo hle hag fs qs h2⟩
end

theorem setChild_spec (h : Heap) (hj : HeapJ) (alj fp : Nat) (name : Bytes) (done : List Nat) (k : Nat) (hne : fp ≠ alj)
    (hch : (hj fp).Children = done) (hk : k = done.length) :
    ∃ hj1, jsonNode.setChild h hj alj fp name = (hj1, alj + 1) ∧
      hj1 fp = { (hj fp) with Children := done ++ [alj] } ∧ hj1 alj = { Name := name, Children := [] } ∧
      (∀ q, q ≠ alj → q ≠ fp → hj1 q = hj q) ∧ jsonNode.getChild h hj1 fp (Int.ofNat k) = alj := by
  refine ⟨_, rfl, by simp [HeapJ.set, hne, hch], by simp [HeapJ.set, Ne.symm hne],
    fun q h1 h2 => by simp [HeapJ.set, h1, h2], ?_⟩
  simp only [jsonNode.getChild, HeapJ.set, if_true, if_neg hne, hch, hk]
  exact idxPtr_at done alj []

/-- the body of the loop of `toFormattedNode` over the children's indices: the lambda the translation leaves inside the
    function, written once more as a definition so that the loop can be stated (`fmt_unfold`, by `rfl`) -/
def fmtBody (h : Heap) (parent fp : Nat) (fuel : Nat) : Int → HeapJ × Nat → Go.Ctl (HeapJ × Nat) (Option (HeapJ × Nat × Nat)) :=
  fun i st_ =>
    match st_ with
    | (hj_, alj_) =>
      match (jsonNode.setChild h hj_ alj_ fp (h (Go.idxPtr (h parent).children i)).name) with
      | (hj_, alj_) =>
        match (toFormattedNode fuel h hj_ alj_ (Go.idxPtr (h parent).children i) (jsonNode.getChild h hj_ fp i)) with
        | none => Go.Ctl.ret none
        | some r_ =>
          match r_ with
          | (hj_, alj_, _) => Go.Ctl.next (hj_, alj_)

theorem fmt_unfold (fuel : Nat) (h : Heap) (hj : HeapJ) (alj : Nat) (parent fp : Nat) :
    toFormattedNode (fuel + 1) h hj alj parent fp =
      (if (!(Node.hasChild h parent)) then some (hj, alj, fp)
       else
         match Go.forRange (Go.indices (h parent).children) (hj, alj) (fmtBody h parent fp fuel) with
         | Go.Ctl.ret r_ => r_
         | Go.Ctl.brk st_ | Go.Ctl.next st_ => some (st_.1, st_.2, fp)) := by
  rfl

/-- `toFormattedNode` is its loop over the children's indices; on a node without children that loop is empty -/
theorem fmt_step (h : Heap) (hj hj' : HeapJ) (alj alj' : Nat) (p fp : Nat) (fuel : Nat)
    (hrun : Go.forRange ((List.range' 0 (h p).children.length).map Int.ofNat) (hj, alj) (fmtBody h p fp fuel)
      = Go.Ctl.next (hj', alj')) :
    toFormattedNode (fuel + 1) h hj alj p fp = some (hj', alj', fp) := by
  rw [fmt_unfold]
  cases hc : Node.hasChild h p
  · rw [show (h p).children = [] by simpa [hasChild_children] using hc] at hrun
    cases hrun
    rfl
  · rw [indices_eq, hrun]
    rfl

theorem fmt_kids (h : Heap) (p fp : Nat) (fuel : Nat) : ∀ (ts : List T) (hj : HeapJ) (alj : Nat) (pre cids done : List Nat)
    (lvl : Nat), ReprKids h ts cids p lvl → (h p).children = pre ++ cids → sizeList ts ≤ fuel → fp < alj →
    (hj fp).Children = done → pre.length = done.length →
    ∃ hj' alj', Go.forRange ((List.range' pre.length cids.length).map Int.ofNat) (hj, alj) (fmtBody h p fp fuel)
        = Go.Ctl.next (hj', alj') ∧ alj ≤ alj' ∧
      (∃ newIds, ReprJKids hj' alj alj' (toFormattedKids ts) newIds ∧ (hj' fp).Children = done ++ newIds) ∧
      (∀ q, q < alj → q ≠ fp → hj' q = hj q) ∧ (hj' fp).Name = (hj fp).Name := by
  intro ts hj alj pre cids done lvl hr
  induction ts, cids, p, lvl, hr using reprKids_induct generalizing fp fuel hj alj pre done with
  | nil =>
    intro _ _ _ hch _
    exact ⟨hj, alj, rfl, Nat.le_refl _, ⟨[], rfl, by rw [hch, List.append_nil]⟩,
      fun _ _ _ => rfl, rfl⟩
  | cons n ks ts c cs' p lvl _ hrc _ _ ihk ihs =>
    intro hpc hf hfp hch hpl
    obtain ⟨fuel, rfl, hfk, hfs⟩ := fuel_cons hf
    have hidx : Go.idxPtr (h p).children (Int.ofNat pre.length) = c := by rw [hpc]; exact idxPtr_at pre c cs'
    obtain ⟨hj1, hset, h1fp, h1new, h1other, hget⟩ :=
      setChild_spec h hj alj fp (h c).name done pre.length (Nat.ne_of_lt hfp) hch hpl
    have hcn : (h c).name = n := hrc.2.1
    obtain ⟨hj2, alj2, hrun2, hle2, ⟨ids2, hrep2, hch2⟩, hfr2, hnm2⟩ :=
      ihk alj fuel hj1 (alj + 1) [] [] rfl hfk (Nat.lt_succ_self _) (by rw [h1new]) rfl
    replace hrun2 := fmt_step h hj1 hj2 (alj + 1) alj2 c alj fuel hrun2
    have h12 : alj < alj2 := hle2
    have h2fp : hj2 fp = hj1 fp := hfr2 fp (Nat.lt_succ_of_lt hfp) (Nat.ne_of_lt hfp)
    obtain ⟨hj3, alj3, hrun3, hle3, ⟨newIds, hrep3, hch3⟩, hfr3, hnm3⟩ :=
      ihs fp (fuel + 1) hj2 alj2 (pre ++ [c]) (done ++ [alj]) (by rw [hpc, List.append_assoc]; rfl) hfs
        (Nat.lt_trans hfp h12) (by rw [h2fp, h1fp]) (by rw [List.length_append, List.length_append, hpl]; rfl)
    refine ⟨hj3, alj3, ?_, Nat.le_trans (Nat.le_of_lt h12) hle3,
      ⟨alj :: newIds, ?_, by rw [hch3, List.append_assoc]; rfl⟩, ?_, ?_⟩
    · -- the first round: `setChild`, then the recursive call on the record that `getChild` reads back; then the other rounds
      rw [List.length_append, List.length_singleton] at hrun3
      simp only [List.length_cons, List.range'_succ, List.map_cons, Go.forRange, fmtBody, hidx, hset, hget, hrun2]
      exact hrun3
    · -- this child's record (at `alj`) and its subtree (in `[alj+1, alj2)`) are untouched by the later rounds
      have hthis : ReprJ hj2 alj alj2 (toFormatted (.mk n ks)) alj :=
        ⟨Nat.le_refl _, h12, by rw [hnm2, h1new, hcn],
          by rw [hch2]; exact ReprJKids_mono (Nat.le_succ _) (Nat.le_refl _) (fun _ _ _ => rfl) _ _ hrep2⟩
      exact ⟨alj, newIds, rfl,
        ReprJ_mono (Nat.le_refl _) hle3 (fun q hq0 hq => hfr3 q hq (Nat.ne_of_gt (Nat.lt_of_lt_of_le hfp hq0))) _ _ hthis,
        ReprJKids_mono (Nat.le_of_lt h12) (Nat.le_refl _) (fun _ _ _ => rfl) _ _ hrep3⟩
    · intro q hq hqf
      rw [hfr3 q (Nat.lt_trans hq h12) hqf, hfr2 q (Nat.lt_succ_of_lt hq) (Nat.ne_of_lt hq), h1other q (Nat.ne_of_lt hq) hqf]
    · rw [hnm3, h2fp, h1fp]

theorem fmt_node (h : Heap) : ∀ (t : T) (hj : HeapJ) (alj : Nat) (p par fp : Nat) (lvl fuel : Nat),
    Repr h t p par lvl → t.size ≤ fuel → fp < alj → (hj fp).Children = [] →
    ∃ hj' alj', toFormattedNode fuel h hj alj p fp = some (hj', alj', fp) ∧ alj ≤ alj' ∧
      (hj' fp).Name = (hj fp).Name ∧ ReprJKids hj' alj alj' (toFormattedKids t.kids) (hj' fp).Children ∧
      (∀ q, q < alj → q ≠ fp → hj' q = hj q) := by
  intro ⟨n, ks⟩ hj alj p par fp lvl fuel hr hf hfp hch
  obtain ⟨fuel, rfl, hfk⟩ := fuel_node hf
  obtain ⟨hj', alj', hrun, hle, ⟨ids, hrep, hids⟩, hfr, hnm⟩ :=
    fmt_kids h p fp fuel ks hj alj [] _ [] (lvl + 1) hr.kids rfl hfk hfp hch rfl
  exact ⟨hj', alj', fmt_step h hj hj' alj alj' p fp fuel hrun, hle, hnm, by rw [hids]; exact hrep, hfr⟩

/-- `fp` is the childless record named like the root that `formattedRoot(root.name)` makes -/
theorem toFormattedNode_heap (h : Heap) (t : T) (hj : HeapJ) (alj : Nat) (p par fp : Nat) (lvl fuel : Nat)
    (hr : Repr h t p par lvl) (hf : t.size ≤ fuel) (hfp : fp < alj) (hn : (hj fp).Name = t.name)
    (hch : (hj fp).Children = []) :
    ∃ hj' alj', toFormattedNode fuel h hj alj p fp = some (hj', alj', fp) ∧ alj ≤ alj' ∧
      ReprJ hj' 0 alj' (toFormatted t) fp ∧ (∀ q, q < alj → q ≠ fp → hj' q = hj q) := by
  obtain ⟨hj', alj', hrun, hle, hnm, hkids, hfr⟩ := fmt_node h t hj alj p par fp lvl fuel hr hf hfp hch
  refine ⟨hj', alj', hrun, hle, ?_, hfr⟩
  cases t with
  | mk n ks =>
    exact ⟨Nat.zero_le _, Nat.lt_of_lt_of_le hfp hle, by rw [hnm, hn]; rfl,
      ReprJKids_mono (Nat.zero_le _) (Nat.le_refl _) (fun _ _ _ => rfl) _ _ hkids⟩

end Gtree.SrcH
