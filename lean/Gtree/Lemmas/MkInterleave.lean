import Gtree.Lemmas.Interleave
import Gtree.Lemmas.VerifyAfter
import Gtree.Lemmas.MkPlan
/-
  The massive mode's mkdirer: the operations of the roots' recursions (`opsTree`) interleaved in any way leave
  a file system with the same `lookup` as the simple mode's (the order of the entries may differ); the per-root
  exists-check passes at any moment; whole roots taken in any order are one such schedule.
-/
namespace Gtree

theorem schedule_mkdirRoots (f : Fmt) {exts : List Bytes} {ts : List Bytes} {roots : List T} {fs : FS}
    (h : Fresh exts ts roots fs) (hnone : anyRootExists fs (key ts) (roots.map (growRoot f)) = false)
    (r : List EOp) (hmem : ∀ op, op ∈ r ↔ op ∈ opsKids exts ts roots) (hord : Ordered r) :
    ∃ s, runE fs r = (s, none) ∧
      ∀ p, s.lookup p = (mkdirRoots fs (key ts) exts (roots.map (growRoot f))).1.lookup p := by
  obtain ⟨s, hrun, hs⟩ := h.schedule_run r hmem hord
  obtain ⟨s0, hrun0, hs0⟩ := h.schedule_run _ (fun _ => Iff.rfl) (ordered_opsKids exts ts roots)
  refine ⟨s, hrun, fun p => ?_⟩
  rw [mkdirRoots, if_neg (by simp [hnone]), mkdirRoots_go_runOps, ops_forest f exts ts h.goodQ roots h.good, ← runE,
    hrun0, hs p]
  exact (hs0 p).symm

theorem Interleave.schedule {exts : List Bytes} {ts : List Bytes} {roots : List T} {r : List EOp}
    (hint : Interleave (roots.map (fun t => opsTree exts ts t)) r) :
    (∀ op, op ∈ r ↔ op ∈ opsKids exts ts roots) ∧ Ordered r := by
  refine ⟨fun op => ?_, fun a c b e => ?_⟩
  · rw [hint.perm.mem_iff, List.mem_flatten, mem_opsKids]
    exact ⟨fun ⟨_, hl, hop⟩ => by obtain ⟨t, ht, rfl⟩ := List.mem_map.mp hl; exact ⟨t, ht, hop⟩,
      fun ⟨t, ht, hop⟩ => ⟨_, List.mem_map.mpr ⟨t, ht, rfl⟩, hop⟩⟩
  · -- the `Create` stands in some root's sequence, after its `MkdirAll` there
    obtain ⟨l, hl, la, lb, hsplit, hsub⟩ := hint.before a (EOp.cr c) b e
    obtain ⟨t, _, rfl⟩ := List.mem_map.mp hl
    exact hsub _ (ordered_opsTree exts ts t la c lb hsplit)

theorem Fresh.interleave_exact {exts : List Bytes} {ts : List Bytes} {roots : List T} {fs : FS}
    (h : Fresh exts ts roots fs) {r : List EOp} (hint : Interleave (roots.map (fun t => opsTree exts ts t)) r) :
    ∃ s, runE fs r = (s, none) ∧ Exact exts ts roots fs s :=
  h.schedule_exact r hint.schedule.1 hint.schedule.2

/-- the exists-check of a root `t` passes after any ordered run `done` of operations of the other roots (an operation
    that `t` issues as well, like the `MkdirAll` of the target, may be among them) -/
theorem exists_check_passes (f : Fmt) {exts : List Bytes} {ts : List Bytes} {roots : List T} {fs : FS}
    (h : Fresh exts ts roots fs) (done : List EOp) (hord : Ordered done) (t : T) (ht : t ∈ roots)
    (hother : ∀ op ∈ done, ∃ t' ∈ roots, t' ≠ t ∧ op ∈ opsTree exts ts t') :
    ∃ s, runE fs done = (s, none) ∧ anyRootExists s (key ts) [growRoot f t] = false := by
  have hplan := h.planOK
  obtain ⟨hts, hg, hd, hnf, habs⟩ := h
  obtain ⟨n, sub⟩ := t
  have hmem : ∀ op ∈ done, op ∈ opsKids exts ts roots := fun op hop => by
    obtain ⟨t', ht', _, hin⟩ := hother op hop
    exact (mem_opsKids exts ts roots op).mpr ⟨t', ht', hin⟩
  obtain ⟨s, hrun, hchar⟩ := hplan.run done hmem hord
  refine ⟨s, hrun, ?_⟩
  have hrn : GoodElem n := goodElem_of_mem hg ht
  have hgood : GoodList (ts ++ [n]) := goodList_snoc hts hrn
  have other : ∀ op ∈ done, ∃ t', AllGoodL [t'] ∧ op ∈ opsKids exts ts [t'] ∧
      ∀ x b, (x, b) ∈ pathsOf exts ts [t'] → key (ts ++ [n]) ≠ key x := by
    intro op hop
    obtain ⟨t', ht', hne, hin⟩ := hother op hop
    exact ⟨t', by simp [AllGoodL, allGoodT_of_mem roots hg t' ht'], by simp [opsKids, hin], fun x b hx =>
      key_ne_of_ne_root exts hts hg hd ht ht' (Ne.symm hne) (mem_pathsOf_cons.mpr (.inl rfl)) hx⟩
  have habs' : s.lookup (key (ts ++ [n])) = none := by
    have hc : key (ts ++ [n]) ∉ crKeys done := fun h => by
      obtain ⟨c, hc, hk⟩ := (mem_crKeys _ _).mp h
      obtain ⟨t', hgl, hin, hne⟩ := other _ hc
      exact hne c _ ((ops_shape exts [t'] ts hts hgl _ hin).2 c rfl).2 hk
    have hm : key (ts ++ [n]) ∉ mkPrefixes done := fun h => by
      obtain ⟨q, hq, hpq⟩ := (mem_mkPrefixes _ _).mp h
      obtain ⟨t', hgl, hin, hne⟩ := other _ hq
      rcases ((keys_of_ops exts ts [t'] hts hgl).1 _).mp ((mem_mkPrefixes _ _).mpr ⟨q, hin, hpq⟩) with ⟨_, hpre⟩ | ⟨x, hx, hk⟩
      · exact key_not_mem_prefixKeys hts hgood (tail := []) rfl hpre
      · exact hne _ _ hx hk
    rw [hchar, stateAfter_of_not_mem hc hm]
    exact habs (ts ++ [n], _) (root_mem_pathsOf exts ts ht)
  have hnf' : ∀ p ∈ prefixKeys ts, notFile s p := fun p hp n hn => by
    rw [hchar] at hn
    exact stateAfter_notFile (fun h => prefix_not_crKey exts ts roots hts hg hp (sub_crKeys (fun _ h => hmem _ h) h))
      (hnf p hp) n hn
  simp only [anyRootExists, growRoot, List.any_cons, List.any_nil, Bool.or_false, List.head?_cons, rootExists]
  rw [join_root ts hts hrn, stat_notExist s ts n hgood hnf' habs']

/-- the loop over whole roots, `taken` done (leaving `s`) and `todo` to come, succeeds, and leaves what the operations
    of `taken ++ todo` run in order leave; when `taken ++ todo` is a permutation of the roots, that run is a schedule
    of the forest -/
theorem mkdirRootsEach_runE (f : Fmt) {exts : List Bytes} {ts : List Bytes} {roots : List T} {fs : FS}
    (h : Fresh exts ts roots fs) :
    ∀ (todo taken : List T) (s : FS), (taken ++ todo).Nodup → (∀ t ∈ taken ++ todo, t ∈ roots) →
      runE fs (opsKids exts ts taken) = (s, none) →
      ∃ s', mkdirRootsEach (key ts) exts s (todo.map (growRoot f)) = (s', none) ∧
        runE fs (opsKids exts ts (taken ++ todo)) = (s', none) := by
  intro todo
  induction todo with
  | nil => exact fun taken s _ _ hrun => ⟨s, rfl, by rwa [List.append_nil]⟩
  | cons t todo ih =>
    intro taken s hnd hin hrun
    rw [List.append_cons] at hnd hin
    have hin' : ∀ t' ∈ taken ++ [t], t' ∈ roots := fun t' ht' => hin t' (List.mem_append_left _ ht')
    have ht : t ∈ roots := hin' t (List.mem_append_right _ List.mem_cons_self)
    obtain ⟨s0, hrun0, hchk⟩ := exists_check_passes f h
      (opsKids exts ts taken) (ordered_opsKids exts ts taken) t ht (fun op hop => by
        obtain ⟨t', ht', hop'⟩ := (mem_opsKids exts ts taken op).mp hop
        exact ⟨t', hin' t' (List.mem_append_left _ ht'),
          (List.nodup_append.mp (List.nodup_append.mp hnd).1).2.2 t' ht' t List.mem_cons_self, hop'⟩)
    obtain rfl : s0 = s := by rw [hrun] at hrun0; exact (Prod.mk.inj hrun0).1.symm
    -- its creation is its operations in order; with those of the roots before, a schedule that succeeds
    obtain ⟨s1, hrun1, _⟩ := h.planOK.run (opsKids exts ts (taken ++ [t])) (fun op hop => by
        obtain ⟨t', ht', hop'⟩ := (mem_opsKids exts ts _ op).mp hop
        exact (mem_opsKids exts ts roots op).mpr ⟨t', hin' t' ht', hop'⟩) (ordered_opsKids exts ts _)
    have happ : runE s0 (opsTree exts ts t) = (s1, none) := by
      have hsplit := hrun1
      rw [opsKids_append, runE, List.map_append, runOps_append, ← runE, hrun] at hsplit
      simpa [opsKids, runE] using hsplit
    obtain ⟨s', hrest, hall⟩ := ih (taken ++ [t]) s1 hnd hin hrun1
    refine ⟨s', ?_, by rwa [List.append_cons]⟩
    rw [List.map_cons, mkdirRootsEach, hchk, if_neg (by simp),
      mkNodes_eq_runE f exts ts h.goodQ t (allGoodT_of_mem roots h.good t ht), happ]
    exact hrest

end Gtree
