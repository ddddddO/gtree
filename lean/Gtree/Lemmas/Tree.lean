import Gtree.Model.Tree
namespace Gtree

/-- `T` is nested through `List T`, so plain `induction` gives no hypothesis for the children: induction over a
    forest, with the hypothesis for the first tree's children and for the trees after it. -/
theorem forest_induct {P : List T → Prop} (nil : P [])
    (cons : ∀ n sub ts, P sub → P ts → P (T.mk n sub :: ts)) : ∀ ks, P ks :=
  -- the recursor of the nested type, with "P of its children" as what is shown of a single tree
  @T.rec_1 (fun t => P t.kids) P (fun _ _ h => h) nil (fun t ts hsub hts => by cases t; exact cons _ _ _ hsub hts)

end Gtree
