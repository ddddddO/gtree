import Gtree.Generated.Facts
/-
  What the entry points of tree_handler.go / tree_handler_programmably.go are expected to do with the
  options (hand-written expectation), against what the fact extractor found in the sources on this run.
-/
namespace Gtree

/-- Output keeps the encoding option (`newConfig`); Mkdir, Verify and Walk work with the default encoding
    (`newConfigWithoutEncode`), under both names of every entry point -/
def expectedEntryConfig : List (String × String) :=
  [("Mkdir", "newConfigWithoutEncode"), ("MkdirFromMarkdown", "newConfigWithoutEncode"), ("MkdirFromRoot", "newConfigWithoutEncode"),
   ("MkdirProgrammably", "newConfigWithoutEncode"), ("Output", "newConfig"), ("OutputFromMarkdown", "newConfig"),
   ("OutputFromRoot", "newConfig"), ("OutputProgrammably", "newConfig"), ("Verify", "newConfigWithoutEncode"),
   ("VerifyFromMarkdown", "newConfigWithoutEncode"), ("VerifyFromRoot", "newConfigWithoutEncode"),
   ("VerifyProgrammably", "newConfigWithoutEncode"), ("Walk", "newConfigWithoutEncode"), ("WalkFromMarkdown", "newConfigWithoutEncode"),
   ("WalkFromRoot", "newConfigWithoutEncode"), ("WalkIterFromRoot", "newConfigWithoutEncode"),
   ("WalkIterProgrammably", "newConfigWithoutEncode"), ("WalkProgrammably", "newConfigWithoutEncode")]

theorem entryConfig_as_expected : Facts.entryConfig = expectedEntryConfig := rfl

theorem aliases_identical : Facts.aliasBodiesEqual.all (fun e => e.2) = true := by decide

end Gtree
