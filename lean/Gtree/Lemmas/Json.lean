import Gtree.Model.Json
/-
  The JSON gtree prints for a forest reads back as the forest (given fuel for its length), and a printed value
  contains no line feed.
-/
namespace Gtree.Json

theorem hexVal_hexDigit : ∀ n, n < 16 → hexVal (hexDigit n) = some n := by decide

/-- the one-letter escapes `escChar` writes, each with the character `parseStr` reads it as -/
def shortEscapes : List (Char × Char) :=
  [('"', '"'), ('\\', '\\'), ('b', Char.ofNat 8), ('f', Char.ofNat 12), ('n', '\n'), ('r', '\r'), ('t', '\t')]

theorem escChar_short : ∀ p ∈ shortEscapes, escChar p.2 = ['\\', p.1] := by decide

theorem escChar_cases (c : Char) :
    (∃ e, (e, c) ∈ shortEscapes ∧ escChar c = ['\\', e]) ∨
    (c.toNat < 0xD800 ∧ escChar c = u4 c.toNat) ∨
    (c ≠ '"' ∧ c ≠ '\\' ∧ 32 ≤ c.toNat ∧ escChar c = [c]) := by
  by_cases hs : ∃ e, (e, c) ∈ shortEscapes
  · obtain ⟨e, he⟩ := hs
    exact .inl ⟨e, he, escChar_short _ he⟩
  · refine .inr ?_
    -- `c` is none of the seven characters with a one-letter escape
    have hc : ∀ p ∈ shortEscapes, c ≠ p.2 := fun p hm h => hs ⟨p.1, h ▸ hm⟩
    simp only [shortEscapes, List.forall_mem_cons, List.not_mem_nil, false_imp_iff, implies_true, and_true] at hc
    obtain ⟨hq, hb, h8, h12, hn, hr, ht⟩ := hc
    replace h8 : c.toNat ≠ 8 := fun h => h8 (by rw [← c.ofNat_toNat, h])
    replace h12 : c.toNat ≠ 12 := fun h => h12 (by rw [← c.ofNat_toNat, h])
    -- `rw`, not `split` or `simp`: both walk the whole chain of `if`s again for every condition
    rw [escChar, if_neg hq, if_neg hb, if_neg h8, if_neg h12, if_neg hn, if_neg hr, if_neg ht]
    by_cases h32 : c.toNat < 32
    · rw [if_pos h32]; exact .inl ⟨Nat.lt_trans h32 (by decide), rfl⟩
    by_cases hh : c = '<' ∨ c = '>' ∨ c = '&'
    · rw [if_neg h32, if_pos hh]; exact .inl ⟨by rcases hh with rfl | rfl | rfl <;> decide, rfl⟩
    by_cases hl : c.toNat = 0x2028 ∨ c.toNat = 0x2029
    · rw [if_neg h32, if_neg hh, if_pos hl]; exact .inl ⟨by rcases hl with h | h <;> rw [h] <;> decide, rfl⟩
    · rw [if_neg h32, if_neg hh, if_neg hl]; exact .inr ⟨hq, hb, Nat.le_of_not_lt h32, rfl⟩

theorem parseStr_short (rest : List Char) : ∀ p ∈ shortEscapes,
    parseStr ('\\' :: p.1 :: rest) = (parseStr rest).map fun (s, r) => (p.2 :: s, r) := by
  simp only [shortEscapes, List.forall_mem_cons, List.not_mem_nil, false_imp_iff, implies_true, and_true]
  and_intros
  all_goals (rw [parseStr.eq_def]; rfl)

theorem parseStr_lit (c : Char) (rest : List Char) (h1 : c ≠ '"') (h2 : c ≠ '\\') :
    parseStr (c :: rest) = if c.toNat < 32 then none else (parseStr rest).map fun (s, r) => (c :: s, r) := by
  rw [parseStr.eq_def]
  split
  · rename_i h; cases h
  · rename_i h; injection h with h; exact absurd h h1
  · rename_i h; injection h with h; exact absurd h h2
  · rename_i h; injection h with ha hb; subst ha; subst hb; rfl

theorem parseStr_u4 (n : Nat) (hn : n < 65536) (hs : ¬ (0xD800 ≤ n ∧ n < 0xE000)) (tail : List Char) :
    parseStr (u4 n ++ tail) = (parseStr tail).map fun (s, r) => (Char.ofNat n :: s, r) := by
  have e : (n / 4096 % 16) * 4096 + (n / 256 % 16) * 256 + (n / 16 % 16) * 16 + n % 16 = n := by
    -- `n % 16⁴ = n` splits into the four digits (`Nat.mod_mul`), which gives the sum in Horner form
    have h : n % (16 * (16 * (16 * 16))) = n := Nat.mod_eq_of_lt hn
    rw [Nat.mod_mul, Nat.mod_mul, Nat.mod_mul] at h
    simp only [Nat.div_div_eq_div_mul, Nat.reduceMul] at h
    exact .trans (by simp +arith only) h
  simp only [u4, List.cons_append, List.nil_append]
  rw [parseStr.eq_def]
  simp [hexVal_hexDigit _ (Nat.mod_lt _ (by decide : 0 < 16)), e, hs]

theorem parseStr_escChar (c : Char) (tail : List Char) :
    parseStr (escChar c ++ tail) = (parseStr tail).map fun (s, r) => (c :: s, r) := by
  rcases escChar_cases c with ⟨e, he, h⟩ | ⟨hc, h⟩ | ⟨h1, h2, h32, h⟩ <;> rw [h]
  · exact parseStr_short tail _ he
  · rw [parseStr_u4 _ (Nat.lt_trans hc (by decide)) (fun h => Nat.not_le_of_lt hc h.1), c.ofNat_toNat]
  · rw [List.singleton_append, parseStr_lit c tail h1 h2, if_neg (Nat.not_lt_of_le h32)]

theorem parseStr_escape (s rest : List Char) : parseStr (escape s ++ '"' :: rest) = some (s, rest) := by
  induction s with
  | nil => simp [escape, parseStr]
  | cons c cs ih => simp [escape, List.append_assoc, parseStr_escChar, ih]

theorem parseStr_quote (s rest : List Char) : ∃ tl, quote s ++ rest = '"' :: tl ∧ parseStr tl = some (s, rest) :=
  ⟨escape s ++ '"' :: rest, by simp [quote], parseStr_escape s rest⟩

theorem quote_eq (s : List Char) : quote s = '"' :: (escape s ++ ['"']) := rfl

/-- the reader `p` reads the text `a` back as `x`, whatever follows it, given fuel for the length of `a`.
    The printer puts a text together in ten ways; `Reads` of the parts gives `Reads` of the whole in each
    (`Reads.cons` for the closed texts, `reads_str` … `reads_members`), which is all the induction over the value needs. -/
def Reads {α : Type} (p : Nat → List Char → Option (α × List Char)) (a : List Char) (x : α) : Prop :=
  ∀ (fuel : Nat) (rest : List Char), a.length ≤ fuel → p fuel (a ++ rest) = some (x, rest)

/-- a text that is not empty has fuel for one step of the reader, and what is left covers the rest of it -/
theorem Reads.cons {α : Type} {p : Nat → List Char → Option (α × List Char)} {c : Char} {a : List Char} {x : α}
    (h : ∀ (f : Nat) (rest : List Char), a.length ≤ f → p (f + 1) (c :: (a ++ rest)) = some (x, rest)) :
    Reads p (c :: a) x := by
  intro fuel rest hl
  cases fuel with
  | zero => exact absurd hl (Nat.not_succ_le_zero _)
  | succ f => exact h f rest (Nat.le_of_succ_le_succ hl)

theorem fuel_append {a b : List Char} {f : Nat} (h : (a ++ b).length ≤ f) : a.length ≤ f ∧ b.length ≤ f := by
  rw [List.length_append] at h
  exact ⟨Nat.le_trans (Nat.le_add_right ..) h, Nat.le_trans (Nat.le_add_left ..) h⟩

theorem reads_str (s : List Char) : Reads parseValue (quote s) (.str s) :=
  Reads.cons (a := escape s ++ ['"']) fun f rest _ => by
    simp only [List.append_assoc, List.cons_append, List.nil_append, parseValue, parseStr_escape, Option.map_some]

theorem reads_arr {a b : List Char} {x : J} {xs : JL} (ha : Reads parseValue a x) (hb : Reads parseElems b xs) :
    Reads parseValue ('[' :: (a ++ b)) (.arr (.cons x xs)) :=
  Reads.cons fun f rest h => by
    have h1 := ha f (b ++ rest) (fuel_append h).1
    rw [List.append_assoc, parseValue, h1]
    · simp only [hb f rest (fuel_append h).2, Option.map_some]
    · -- no value starts with `]`: the reader reads none there
      intro r hr
      rw [hr] at h1
      cases f <;> cases h1

theorem reads_elems {a b : List Char} {x : J} {xs : JL} (ha : Reads parseValue a x) (hb : Reads parseElems b xs) :
    Reads parseElems (',' :: (a ++ b)) (.cons x xs) :=
  Reads.cons fun f rest h => by
    simp only [List.append_assoc, parseElems, ha f _ (fuel_append h).1, hb f rest (fuel_append h).2, Option.map_some]

theorem reads_obj (k : List Char) {a b : List Char} {v : J} {ms : ML} (ha : Reads parseValue a v)
    (hb : Reads parseMembers b ms) : Reads parseValue ('{' :: (quote k ++ ':' :: a ++ b)) (.obj (.cons k v ms)) :=
  Reads.cons fun f rest h => by
    simp only [quote_eq, List.append_assoc, List.cons_append, List.nil_append, parseValue, parseStr_escape,
      ha f _ (Nat.le_of_succ_le (fuel_append (fuel_append h).1).2), hb f rest (fuel_append h).2, Option.map_some]

theorem reads_members (k : List Char) {a b : List Char} {v : J} {ms : ML} (ha : Reads parseValue a v)
    (hb : Reads parseMembers b ms) : Reads parseMembers (',' :: (quote k ++ ':' :: a ++ b)) (.cons k v ms) :=
  Reads.cons fun f rest h => by
    simp only [quote_eq, List.append_assoc, List.cons_append, List.nil_append, parseMembers, parseStr_escape,
      ha f _ (Nat.le_of_succ_le (fuel_append (fuel_append h).1).2), hb f rest (fuel_append h).2, Option.map_some]

mutual
theorem parse_print : ∀ (j : J) (fuel : Nat) (rest : List Char), j.print.length ≤ fuel →
    parseValue fuel (j.print ++ rest) = some (j, rest)
  | .null => Reads.cons fun _ _ _ => rfl
  | .str s => reads_str s
  | .arr .nil => Reads.cons fun _ _ _ => rfl
  | .arr (.cons x xs) => reads_arr (parse_print x) (parse_printTail xs)
  | .obj .nil => Reads.cons fun _ _ _ => rfl
  | .obj (.cons k v ms) => reads_obj k (parse_print v) (parse_membersTail ms)
theorem parse_printTail : ∀ (xs : JL) (fuel : Nat) (rest : List Char), (JL.printTail xs).length ≤ fuel →
    parseElems fuel (JL.printTail xs ++ rest) = some (xs, rest)
  | .nil => Reads.cons fun _ _ _ => rfl
  | .cons x xs => reads_elems (parse_print x) (parse_printTail xs)
theorem parse_membersTail : ∀ (ms : ML) (fuel : Nat) (rest : List Char), (ML.printTail ms).length ≤ fuel →
    parseMembers fuel (ML.printTail ms ++ rest) = some (ms, rest)
  | .nil => Reads.cons fun _ _ _ => rfl
  | .cons k v ms => reads_members k (parse_print v) (parse_membersTail ms)
end

mutual
theorem toCT_toJ : ∀ t : CT, t.toJ.toCT = some t
  | .mk v [] => by simp [CT.toJ, CT.kidsToJ, J.toCT]
  | .mk v (c :: cs) => by
    have h := toCTs_kidsToJs (c :: cs)
    simp only [CT.kidsToJs] at h
    simp [CT.toJ, CT.kidsToJ, J.toCT, h]
theorem toCTs_kidsToJs : ∀ ts : List CT, JL.toCTs (CT.kidsToJs ts) = some ts
  | [] => by simp [CT.kidsToJs, JL.toCTs]
  | t :: ts => by simp [CT.kidsToJs, JL.toCTs, toCT_toJ t, toCTs_kidsToJs ts]
end

theorem encodeRoot_ne_nil (t : CT) (r : List Char) : encodeRoot t ++ r ≠ [] := by
  simp [encodeRoot]

theorem parseLines_encodeRoots (ts : List CT) : ∀ fuel : Nat, ts.length < fuel →
    parseLines fuel (encodeRoots ts) = some (ts.map CT.toJ) := by
  induction ts with
  | nil =>
    intro fuel h
    cases fuel with
    | zero => exact absurd h (Nat.not_lt_zero _)
    | succ fuel => rfl
  | cons t ts ih =>
    intro fuel h
    obtain ⟨fuel, rfl⟩ := Nat.exists_eq_add_one_of_ne_zero (Nat.ne_zero_of_lt h)
    have ih := ih fuel (Nat.lt_of_succ_lt_succ h)
    have hp : parseValue (encodeRoots (t :: ts)).length (encodeRoots (t :: ts)) =
        some (t.toJ, '\n' :: encodeRoots ts) := by
      have := parse_print t.toJ (encodeRoots (t :: ts)).length ('\n' :: encodeRoots ts)
        (by simp [encodeRoots, encodeRoot])
      simpa [encodeRoots, encodeRoot] using this
    obtain ⟨c, tl, hc⟩ := List.exists_cons_of_ne_nil (encodeRoot_ne_nil t (encodeRoots ts))
    rw [encodeRoots, hc] at hp ⊢
    rw [parseLines.eq_def]
    simp only [List.length_cons] at hp
    simp [hp, ih]

theorem readAll_map_toJ : ∀ ts : List CT, readAll (ts.map CT.toJ) = some ts
  | [] => rfl
  | t :: ts => by simp [readAll, toCT_toJ t, readAll_map_toJ ts]

theorem nl_not_mem_u4 (n : Nat) : '\n' ∉ u4 n := by
  have h : ∀ k, hexDigit (k % 16) ≠ '\n' := fun k =>
    (by decide : ∀ d, d < 16 → hexDigit d ≠ '\n') _ (Nat.mod_lt _ (by decide))
  simp only [u4, List.mem_cons, List.not_mem_nil, or_false, not_or]
  exact ⟨by decide, by decide, (h _).symm, (h _).symm, (h _).symm, (h _).symm⟩

theorem nl_not_mem_escChar (c : Char) : '\n' ∉ escChar c := by
  rcases escChar_cases c with ⟨e, he, h⟩ | ⟨_, h⟩ | ⟨_, _, h32, h⟩ <;> rw [h]
  · exact (by decide : ∀ p ∈ shortEscapes, '\n' ∉ ['\\', p.1]) _ he
  · exact nl_not_mem_u4 _
  · intro hm
    rw [← List.mem_singleton.1 hm] at h32
    exact absurd h32 (by decide)

theorem nl_not_mem_escape : ∀ s : List Char, '\n' ∉ escape s
  | [] => by simp [escape]
  | c :: cs => by simp [escape, nl_not_mem_escChar c, nl_not_mem_escape cs]

theorem nl_not_mem_quote (s : List Char) : '\n' ∉ quote s := by
  simp [quote, nl_not_mem_escape s]

mutual
theorem nl_not_mem_print : ∀ j : J, '\n' ∉ j.print
  | .null => by simp [J.print]
  | .str s => by simpa [J.print] using nl_not_mem_quote s
  | .arr .nil => by simp [J.print]
  | .arr (.cons x xs) => by
    simp [J.print, nl_not_mem_print x, nl_not_mem_printTail xs]
  | .obj .nil => by simp [J.print]
  | .obj (.cons k v ms) => by
    have := nl_not_mem_quote k
    simp [J.print, nl_not_mem_print v, nl_not_mem_membersTail ms, this]
theorem nl_not_mem_printTail : ∀ xs : JL, '\n' ∉ JL.printTail xs
  | .nil => by simp [JL.printTail]
  | .cons x xs => by simp [JL.printTail, nl_not_mem_print x, nl_not_mem_printTail xs]
theorem nl_not_mem_membersTail : ∀ ms : ML, '\n' ∉ ML.printTail ms
  | .nil => by simp [ML.printTail]
  | .cons k v ms => by
    have := nl_not_mem_quote k
    simp [ML.printTail, nl_not_mem_print v, nl_not_mem_membersTail ms, this]
end

theorem count_nl_encodeRoots : ∀ ts : List CT, (encodeRoots ts).count '\n' = ts.length
  | [] => by simp [encodeRoots]
  | t :: ts => by
    have h := nl_not_mem_print t.toJ
    simp [encodeRoots, encodeRoot, List.count_append, List.count_eq_zero_of_not_mem h, count_nl_encodeRoots ts]

end Gtree.Json
