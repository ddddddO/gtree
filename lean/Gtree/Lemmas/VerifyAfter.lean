import Gtree.Lemmas.MkBridge
/-
  The grown visits of a root, joined with the target, are the element-list paths `pathsOf` (with the
  same "is a file" flag) – so the verifier's `want` list is their keys and the dry-run counts are their
  numbers by flag; Stat of the model file system and "below" on such keys.
-/
namespace Gtree

/-- what the mkdirer / verifier / dry-run counter sees of a visit: its joined path and its file flag -/
def seen (exts : List Bytes) (target : Bytes) (v : Visit) : Bytes × Bool :=
  (filepathJoin [target, v.path], isFileNode exts v.name v.hasChild)

section visits
variable (f : Fmt) (exts : List Bytes) (ts : List Bytes) (r : Bytes)

theorem seen_growKids (hts : GoodList ts) (hr : GoodElem r) : ∀ (ks : List T) (anc : List Anc) (lvl : Nat),
    AllGoodL ks → (∀ a ∈ anc, GoodElem a.1) →
    (growKids f r anc lvl ks).map (seen exts (key ts)) = (pathsOf exts (parentOf ts r anc) ks).map (Prod.map key id) := by
  intro ks
  induction ks using forest_induct with
  | nil => intros; simp [growKids, pathsOf]
  | cons n sub rest ihs ihr =>
    intro anc lvl hg hanc
    rw [AllGoodL, AllGoodT] at hg
    have ih := ihs ((n, rest.isEmpty) :: anc) (lvl + 1) hg.1.2 (List.forall_mem_cons.mpr ⟨hg.1.1, hanc⟩)
    rw [parentOf_cons] at ih
    simp only [growKids_cons, pathsOf, List.map_cons, List.map_append, List.cons_append, ih, ihr anc lvl hg.2 hanc]
    simp only [seen, Prod.map, id, join_pathOf ts r hts hr anc hanc n hg.1.1]

theorem seen_growRoot (hts : GoodList ts) (t : T) (ht : AllGoodT t) :
    (growRoot f t).map (seen exts (key ts)) = (pathsOf exts ts [t]).map (Prod.map key id) := by
  cases t with
  | mk n sub =>
    rw [AllGoodT] at ht
    have ih := seen_growKids f exts ts n hts ht.1 sub [] 2 ht.2 (by simp)
    have hp : parentOf ts n [] = ts ++ [n] := by simp [parentOf]
    rw [hp] at ih
    simp only [growRoot, pathsOf, List.map_cons, List.append_nil, ih]
    simp only [seen, Prod.map, id, join_root ts hts ht.1]

theorem want_growRoot (hts : GoodList ts) (t : T) (ht : AllGoodT t) :
    (growRoot f t).map (fun v => filepathJoin [key ts, v.path]) = (pathsOf exts ts [t]).map (fun e => key e.1) := by
  have h := congrArg (List.map (·.1)) (seen_growRoot f exts ts hts t ht)
  simpa [List.map_map, Function.comp_def, seen] using h

theorem counts_growRoot (hts : GoodList ts) (t : T) (ht : AllGoodT t) :
    countFiles exts (growRoot f t) = ((pathsOf exts ts [t]).filter (fun e => e.2)).length ∧
    countDirs exts (growRoot f t) = ((pathsOf exts ts [t]).filter (fun e => !e.2)).length := by
  -- both sides count, by a condition on the file flag, the members of two lists whose flags agree
  have hf : ∀ p : Bool → Bool, ((growRoot f t).filter (fun v => p (isFileNode exts v.name v.hasChild))).length
      = ((pathsOf exts ts [t]).filter (fun e => p e.2)).length := fun p => by
    have h := congrArg (fun l => (l.filter (fun x => p x.2)).length) (seen_growRoot f exts ts hts t ht)
    simp only [List.filter_map, List.length_map] at h
    exact h
  exact ⟨hf id, hf not⟩

end visits

/-- `Stat` goes through the prefixes `l` of a path: the leftmost one that is not a directory decides (absent: not-exist,
    a file: not-a-directory); if all are directories, the path's own entry does -/
theorem stat_go_cases (fs : FS) (last : Bytes) (hl : lastTooLong last = false) (l : List Bytes)
    (h : ∀ q ∈ l, lastTooLong q = false) :
    (∃ q ∈ l, fs.kindOf q ≠ some .dir ∧
      FS.stat.go fs (l ++ [last]) = if fs.kindOf q = none then .error .notExist else .error .notDir) ∨
    ((∀ q ∈ l, fs.kindOf q = some .dir) ∧
      FS.stat.go fs (l ++ [last]) = match fs.kindOf last with | some k => .ok k | none => .error .notExist) := by
  induction l with
  | nil => exact Or.inr ⟨by simp, by simp only [List.nil_append, FS.stat.go, hl]; rfl⟩
  | cons q l ih =>
    obtain ⟨q2, qs, hl'⟩ : ∃ q2 qs, l ++ [last] = q2 :: qs := by cases l <;> exact ⟨_, _, rfl⟩
    rw [List.cons_append, hl', FS.stat.go, h q List.mem_cons_self, ← hl']
    simp only [Bool.false_eq_true, if_false]
    cases hk : fs.kindOf q with
    | none => exact Or.inl ⟨q, List.mem_cons_self, by rw [hk]; simp, by rw [hk, if_pos rfl]⟩
    | some k =>
      cases k with
      | file n => exact Or.inl ⟨q, List.mem_cons_self, by rw [hk]; simp, by rw [hk, if_neg (by simp)]⟩
      | dir =>
        rcases ih (fun x hx => h x (List.mem_cons_of_mem _ hx)) with ⟨x, hx, hne, e⟩ | ⟨hall, e⟩
        · exact Or.inl ⟨x, List.mem_cons_of_mem _ hx, hne, e⟩
        · exact Or.inr ⟨List.forall_mem_cons.mpr ⟨hk, hall⟩, e⟩

theorem stat_key_cases (fs : FS) {es : List Bytes} (hg : GoodList es) :
    (∃ q ∈ prefixKeys es.dropLast, fs.lookup q ≠ some .dir ∧
      fs.stat (key es) = if fs.lookup q = none then .error .notExist else .error .notDir) ∨
    ((∀ q ∈ prefixKeys es.dropLast, fs.lookup q = some .dir) ∧
      fs.stat (key es) = match fs.lookup (key es) with | some k => .ok k | none => .error .notExist) := by
  simp only [FS.stat, hasNul_key hg, isAmbient_key hg, Bool.false_eq_true, if_false]
  rw [prefixesOf_key hg, prefixKeys_dropLast hg.1, ← kindOf_key hg]
  have hpre : ∀ q ∈ prefixKeys es.dropLast, lastTooLong q = false ∧ fs.kindOf q = fs.lookup q := fun q hq => by
    obtain ⟨x, hx, _, rfl⟩ := exists_of_mem_prefixKeys (fun e he => hg.2 e (List.dropLast_subset es he)) hq
    exact ⟨lastTooLong_key hx, kindOf_key hx fs⟩
  rcases stat_go_cases fs (key es) (lastTooLong_key hg) _ (fun q hq => (hpre q hq).1) with ⟨q, hq, hne, e⟩ | ⟨hall, e⟩
  · exact Or.inl ⟨q, hq, (hpre q hq).2 ▸ hne, (hpre q hq).2 ▸ e⟩
  · exact Or.inr ⟨fun q hq => (hpre q hq).2 ▸ hall q hq, e⟩

theorem stat_key {fs : FS} {es : List Bytes} (hg : GoodList es) (k : Kind)
    (hdirs : ∀ q ∈ prefixKeys es.dropLast, fs.lookup q = some Kind.dir) (hk : fs.lookup (key es) = some k) :
    fs.stat (key es) = .ok k := by
  rcases stat_key_cases fs hg with ⟨q, hq, hne, _⟩ | ⟨_, e⟩
  · exact absurd (hdirs q hq) hne
  · rw [e, hk]

theorem stat_ne_notExist (fs : FS) (hc : fs.Closed) (es : List Bytes) (hg : GoodList es) (h : fs.lookup (key es) ≠ none) :
    fs.stat (key es) ≠ .error .notExist := by
  rcases stat_key_cases fs hg with ⟨q, hq, _, e⟩ | ⟨_, e⟩
  · rw [e, if_neg (hc.prefix hg h q (prefixKeys_dropLast hg.1 ▸ List.mem_append_left _ hq))]
    simp
  · rw [e]
    cases hl : fs.lookup (key es) with
    | none => exact absurd hl h
    | some k => simp

theorem stat_notExist (fs : FS) (es : List Bytes) (x : Bytes) (hg : GoodList (es ++ [x]))
    (hnf : ∀ q ∈ prefixKeys es, notFile fs q) (habs : fs.lookup (key (es ++ [x])) = none) :
    fs.stat (key (es ++ [x])) = .error .notExist := by
  rcases stat_key_cases fs hg with ⟨q, hq, hne, e⟩ | ⟨_, e⟩
  · rw [List.dropLast_concat] at hq
    rw [e, if_pos]
    cases hl : fs.lookup q with
    | none => rfl
    | some k =>
      cases k with
      | dir => exact absurd hl hne
      | file n => exact absurd hl (hnf q hq n)
  · rw [e, habs]

theorem isBelow_key_iff {a es : List Bytes} (ha : GoodList a) (hes : GoodList es) :
    isBelow (key a) (key es) = true ↔ ∃ tail, tail ≠ [] ∧ es = a ++ tail := by
  have hd : (key a == [dot]) = false := by simpa using key_ne_dot ha
  simp only [isBelow, hd, Bool.false_eq_true, if_false, Bool.and_eq_true, List.isPrefixOf_iff_prefix, decide_eq_true_eq]
  constructor
  · rintro ⟨⟨rest, hrest⟩, _⟩
    have hs := splitSlash_key hes
    rw [← hrest, show key a ++ [slash] ++ rest = joinSlash a ++ slash :: rest by simp,
      splitSlash_joinSlash_append a rest ha.1 (fun e he => (ha.2 e he).1.2.2.2)] at hs
    exact ⟨splitSlash rest, splitSlash_ne_nil rest, hs.symm⟩
  · rintro ⟨tail, ht, rfl⟩
    have htn : 0 < (key tail).length :=
      List.length_pos_iff.mpr (joinSlash_ne_nil tail ht fun e he => (hes.2 e (by simp [he])).1.1)
    rw [show key (a ++ tail) = key a ++ slash :: key tail from joinSlash_append a tail ha.1 ht]
    refine ⟨⟨key tail, by simp⟩, ?_⟩
    simp only [List.length_append, List.length_cons]
    exact Nat.add_lt_add_left (Nat.succ_lt_succ htn) _

end Gtree
