import Gtree.Generated.Heap.Grower
import Gtree.Lemmas.HeapTrav
/-
  The grower of the source (simple_tree_grower.go, with the methods of node.go it calls), translated over an
  explicit heap by /verif/translate (heap mode), is the model's grower: for every heap that holds a tree, all pointers
  different, the translated `assemble` on the root's pointer leaves in every node of the tree the branch and the path
  the model's `growRoot` computes, changes no other cell and no other field, and returns the first validation error in
  pre-order (when validation is on).
-/
namespace Gtree.SrcH
open Gtree Gtree.Go

section
variable {σ ρ : Type} {cond : σ → Bool} {body : σ → Ctl σ ρ}

theorem forLoop_done {s : σ} (hc : cond s = false) (fuel : Nat) : forLoop fuel s cond body = some (.next s) := by
  cases fuel <;> rw [forLoop, hc] <;> rfl

theorem forLoop_next {s s' : σ} (hc : cond s = true) (hb : body s = .next s') (fuel : Nat) :
    forLoop (fuel + 1) s cond body = forLoop fuel s' cond body := by
  rw [forLoop, hc, if_pos rfl, hb]

theorem forLoop_no_ret (hb : ∀ s, ∃ s', body s = .next s') :
    ∀ (fuel : Nat) (s : σ) (r : ρ), forLoop fuel s cond body ≠ some (.ret r) := by
  intro fuel
  induction fuel with
  | zero => intro s r; rw [forLoop]; cases cond s <;> exact fun he => nomatch he
  | succ fuel ih =>
    intro s r
    cases hc : cond s
    · rw [forLoop_done hc]; exact fun he => nomatch he
    · obtain ⟨s', hs'⟩ := hb s
      rw [forLoop_next hc hs']
      exact ih s' r

end

theorem indirect_eq (dg : defaultGrowerSimple) (h : Heap) (cur q : Ptr) (b : Src.branch)
    (hc0 : cur ≠ 0) (hcl : (h cur).hierarchy ≠ 1) (hq0 : q ≠ 0) :
    defaultGrowerSimple.assembleBranchIndirectly (setBr h cur b) dg cur q
      = setBr h cur ⟨(if Node.isLastOfHierarchy h q then (fmtOf dg).lastI else (fmtOf dg).midI) ++ b.value,
          pathJoin [(h q).name, b.path]⟩ := by
  have hnil : Go.nilPtr = 0 := rfl
  have hroot : Node.isRoot (setBr h cur b) cur = false := by
    rw [isRoot_setBr, isRoot_eq, beq_false_of_ne hcl]
  unfold defaultGrowerSimple.assembleBranchIndirectly
  rw [hnil, beq_false_of_ne hc0, beq_false_of_ne hq0, hroot, if_neg (by decide)]
  simp only [setPath_eq, setBranch_eq, isLast_setBr, Node.path, hroot, Node.branch, setBr_name, setBr_setBr,
    setBr_brnch_self, Bool.false_eq_true, if_false]
  cases Node.isLastOfHierarchy h q <;> simp [fmtOf]

/-- condition and body of the loop of `assembleBranch` that walks from the parent up to the root -/
def loopCond : Heap × Ptr → Bool := fun st_ => match st_ with | (h_, tmpParent) => (!(Node.isRoot h_ tmpParent))
def loopBody (dg : defaultGrowerSimple) (cur : Ptr) : Heap × Ptr → Go.Ctl (Heap × Ptr) (Option (Heap × Option Src.Err)) :=
  fun st_ => match st_ with
    | (h_, tmpParent) =>
      let h_ := (defaultGrowerSimple.assembleBranchIndirectly h_ dg cur tmpParent)
      let tmpParent := (h_ tmpParent).parent
      Go.Ctl.next (h_, tmpParent)

theorem loop_eq (dg : defaultGrowerSimple) (h : Heap) (cur root : Ptr) (hc0 : cur ≠ 0) (hcl : (h cur).hierarchy ≠ 1) :
    ∀ (anc : List Anc) (q : Ptr) (b : Src.branch) (fuel : Nat), Up h root q anc → anc.length ≤ fuel →
      Go.forLoop fuel (setBr h cur b, q) loopCond (loopBody dg cur)
      = some (Go.Ctl.next (setBr h cur
          ⟨anc.foldl (fun acc a => (if a.2 then (fmtOf dg).lastI else (fmtOf dg).midI) ++ acc) b.value,
           anc.foldl (fun acc a => pathJoin [a.1, acc]) b.path⟩, root)) := by
  intro anc
  induction anc with
  | nil =>
    intro q b fuel hu _
    obtain ⟨rfl, _, hr⟩ := hu
    exact forLoop_done (by rw [loopCond, isRoot_setBr, isRoot_eq, hr]; rfl) fuel
  | cons a anc ih =>
    intro q b fuel hu hf
    obtain ⟨hq0, hql, hqn, hqlast, hup⟩ := hu
    obtain _ | fuel := fuel
    · exact absurd hf (Nat.not_succ_le_zero _)
    have hcond : loopCond (setBr h cur b, q) = true := by
      rw [loopCond, isRoot_setBr, isRoot_eq, beq_false_of_ne hql]; rfl
    have hbody : loopBody dg cur (setBr h cur b, q) = Go.Ctl.next (setBr h cur
        ⟨(if a.2 then (fmtOf dg).lastI else (fmtOf dg).midI) ++ b.value, pathJoin [a.1, b.path]⟩, (h q).parent) := by
      simp only [loopBody, indirect_eq dg h cur q b hc0 hcl hq0, hqlast, hqn, setBr_parent]
    rw [forLoop_next hcond hbody]
    exact ih (h q).parent _ fuel hup (Nat.le_of_succ_le_succ hf)

/-- `assembleBranch` of either variant of the grower (simple_tree_grower.go, wasm_tree_grower.go): clean, the connector,
    the walk up to the root, then the variant's last step `fin` and validation -/
def assembleBranchWith (fin : Heap → Ptr → Heap) (dg : defaultGrowerSimple) (fuel : Nat) (h : Heap) (cur : Ptr) :
    Option (Heap × Option Src.Err) :=
  let h1 := defaultGrowerSimple.assembleBranchDirectly (Node.clean h cur) dg cur
  let tp := (h1 cur).parent
  let done := fun (st : Heap × Ptr) =>
    let h2 := fin st.1 st.2
    if dg.enabledValidation then some (h2, Node.validatePath h2 cur) else some (h2, none)
  if (tp != Go.nilPtr) then
    match Go.forLoop fuel (h1, tp) loopCond (loopBody dg cur) with
    | none => none
    | some (Go.Ctl.ret r_) => r_
    | some (Go.Ctl.brk st_) | some (Go.Ctl.next st_) => done st_
  else done (h1, tp)

theorem assembleBranch_eq (fuel : Nat) (h : Heap) (dg : defaultGrowerSimple) (cur : Ptr) :
    defaultGrowerSimple.assembleBranch fuel h dg cur =
      assembleBranchWith (fun h q => defaultGrowerSimple.assembleBranchFinally h dg cur q) dg fuel h cur := rfl

theorem assembleBranch_node (dg : defaultGrowerSimple) (h : Heap) (cur root : Ptr) (l : Bool) (anc : List Anc)
    (fuel : Nat) (hc0 : cur ≠ 0) (hcl : (h cur).hierarchy ≠ 1) (hup : Up h root (h cur).parent anc)
    (hl : Node.isLastOfHierarchy h cur = l) (hf : anc.length ≤ fuel) :
    defaultGrowerSimple.assembleBranch fuel h dg cur =
      some (setBr h cur ⟨branchOf (fmtOf dg) l anc, pathOf (h root).name (h cur).name anc⟩,
        if dg.enabledValidation then
          Node.validatePath (setBr h cur ⟨branchOf (fmtOf dg) l anc, pathOf (h root).name (h cur).name anc⟩) cur
        else none) := by
  have hnil : Go.nilPtr = 0 := rfl
  have hp0 : (h cur).parent ≠ 0 := Up_ne_zero h root anc _ hup
  have hdirect : defaultGrowerSimple.assembleBranchDirectly (Node.clean h cur) dg cur
      = setBr h cur ⟨if l then (fmtOf dg).lastD else (fmtOf dg).midD, pathJoin [(h cur).name]⟩ := by
    simp only [defaultGrowerSimple.assembleBranchDirectly, clean_eq, hnil, Node.isRoot,
      Src.rootHierarchyNum, setBr_hierarchy, setPath_eq, setBranch_eq, Node.branch, setBr_name, setBr_setBr,
      setBr_brnch_self, isLast_setBr, hl]
    cases l <;> simp [fmtOf, hc0, hcl]
  rw [assembleBranch_eq, assembleBranchWith]
  simp only [hdirect, setBr_parent, hnil, bne_iff_ne, ne_eq, hp0, not_false_eq_true, if_true]
  rw [loop_eq dg h cur root hc0 hcl anc (h cur).parent
    ⟨if l then (fmtOf dg).lastD else (fmtOf dg).midD, pathJoin [(h cur).name]⟩ fuel hup hf]
  obtain ⟨hr0, hrl⟩ := Up_root h root anc hup
  -- the last step joins the root's name (the path of a root) in front of the path
  have hfinally : ∀ b : Src.branch, defaultGrowerSimple.assembleBranchFinally (setBr h cur b) dg cur root
      = setBr h cur ⟨b.value, pathJoin [(h root).name, b.path]⟩ := fun b => by
    simp only [defaultGrowerSimple.assembleBranchFinally, hnil, beq_iff_eq, hc0, if_false, bne_iff_ne, ne_eq, hr0,
      not_false_eq_true, if_true, setPath_eq, Node.path, Node.isRoot, Src.rootHierarchyNum, setBr_hierarchy, hrl,
      hcl, setBr_name, setBr_brnch_self, setBr_setBr]
  simp only [hfinally, branchOf, pathOf]
  cases dg.enabledValidation <;> rfl

theorem assembleBranch_root (dg : defaultGrowerSimple) (h : Heap) (cur : Ptr) (fuel : Nat)
    (hc0 : cur ≠ 0) (hcl : (h cur).hierarchy = 1) (hpar : (h cur).parent = 0) :
    defaultGrowerSimple.assembleBranch fuel h dg cur =
      some (setBr h cur ⟨[], []⟩,
        if dg.enabledValidation then Node.validatePath (setBr h cur ⟨[], []⟩) cur else none) := by
  have hnil : Go.nilPtr = 0 := rfl
  have hdirect : defaultGrowerSimple.assembleBranchDirectly (Node.clean h cur) dg cur = setBr h cur ⟨[], []⟩ := by
    simp [defaultGrowerSimple.assembleBranchDirectly, clean_eq, Node.isRoot, Src.rootHierarchyNum, hcl]
  rw [assembleBranch_eq, assembleBranchWith]
  simp only [hdirect, setBr_parent, hpar, hnil, bne_self_eq_false, Bool.false_eq_true, if_false,
    defaultGrowerSimple.assembleBranchFinally, beq_iff_eq, hc0]
  cases dg.enabledValidation <;> simp

/-- the body of the loop of `assemble` over the children (`plainBody` at `assemble`, by `rfl`) -/
def kidsBody (dg : defaultGrowerSimple) (fuel : Nat) : Ptr → Heap → Go.Ctl Heap (Option (Heap × Option Src.Err)) :=
  fun child st_ =>
    match (defaultGrowerSimple.assemble fuel st_ dg child) with
    | none => Go.Ctl.ret none
    | some r_ =>
      match r_ with
      | (h_, err) => if (Option.isSome err) then Go.Ctl.ret (some (h_, err)) else Go.Ctl.next h_

theorem size_le_sizeList_head (t : T) (ts : List T) : t.size ≤ sizeList (t :: ts) := by
  simp [sizeList]

theorem assemble_isTrav (dg : defaultGrowerSimple) :
    IsTrav (fun fuel h p => defaultGrowerSimple.assembleBranch fuel h dg p)
      (fun fuel h p => defaultGrowerSimple.assemble fuel h dg p) :=
  ⟨fun _ _ => rfl, fun _ _ _ => rfl⟩

theorem assembleBranch_grows (dg : defaultGrowerSimple) :
    Grows (fmtOf dg) id (valObs dg) (liftAct fun fuel h p => defaultGrowerSimple.assembleBranch fuel h dg p) where
  node h a cur root lvl anc fuel v hc0 hl hlvl hup hf hv := by
    have hcl : (h cur).hierarchy ≠ 1 := ne_one_of_level hl hlvl
    exact grows_of_validated (assembleBranch_node dg h cur root _ anc fuel hc0 hcl hup rfl hf) hl
      (by rw [visitAt_setBr, if_neg hcl, hv]; rfl) rfl
  root h a cur fuel v hc0 hl hpar hv :=
    grows_of_validated (assembleBranch_root dg h cur fuel hc0 hl hpar) hl (by rw [visitAt_setBr, if_pos hl, hv]; rfl) rfl

theorem assemble_node (dg : defaultGrowerSimple) (root : Ptr) (rn : Bytes) :
    ∀ (t : T) (h : Heap) (p par : Ptr) (lvl : Nat) (l : Bool) (anc : List Anc) (fuel : Nat),
      2 ≤ lvl → (h root).name = rn → Repr h t p par lvl → Up h root par anc → Node.isLastOfHierarchy h p = l →
      (ptrs h t p).Nodup → 2 * t.size + anc.length ≤ fuel →
      ∃ h', defaultGrowerSimple.assemble fuel h dg p = some (h', expErr dg (growNode (fmtOf dg) rn anc lvl l t)) ∧
        (expErr dg (growNode (fmtOf dg) rn anc lvl l t) = none →
          SameShape h h' ∧ (∀ q, q ∉ ptrs h t p → h' q = h q) ∧
          readNode h' t p lvl = growNode (fmtOf dg) rn anc lvl l t) := by
  intro t h p par lvl l anc fuel hlvl hrn hr hup hl hnd hf
  obtain ⟨h', hrun, hrest⟩ := trav_node (assembleBranch_grows dg) (trav_kids (assembleBranch_grows dg) root rn _) ()
    hlvl hrn hr hup hl hnd hf
  exact ⟨h', (assemble_isTrav dg).run hrun, by simpa only [runAll_valObs, List.map_id] using hrest⟩

theorem assemble_kids (dg : defaultGrowerSimple) (root : Ptr) (rn : Bytes) :
    ∀ (ts : List T) (h : Heap) (par : Ptr) (pre cs : List Ptr) (lvl : Nat) (ancP : List Anc) (fuel : Nat),
      2 ≤ lvl → (h root).name = rn → ReprKids h ts cs par lvl → Up h root par ancP →
      (h par).children = pre ++ cs → ((h par).children).Nodup → (ptrsKids h ts cs).Nodup →
      2 * sizeList ts + ancP.length ≤ fuel →
      ∃ h', Go.forRange cs h (kidsBody dg fuel) =
          (match expErr dg (growKids (fmtOf dg) rn ancP lvl ts) with
           | none => Go.Ctl.next h'
           | some e => Go.Ctl.ret (some (h', some e))) ∧
        (expErr dg (growKids (fmtOf dg) rn ancP lvl ts) = none →
          SameShape h h' ∧ (∀ q, q ∉ ptrsKids h ts cs → h' q = h q) ∧
          readKids h' ts cs lvl = growKids (fmtOf dg) rn ancP lvl ts) := by
  intro ts h par pre cs lvl ancP fuel hlvl hrn hr hup hch hcnd hnd hf
  obtain ⟨h', hrun, hrest⟩ := trav_kids (assembleBranch_grows dg) root rn ts h () par pre cs lvl ancP fuel hlvl hrn hr
    hup hch hcnd hnd hf
  refine ⟨h', ((assemble_isTrav dg).loop hrun).trans ?_, by simpa only [runAll_valObs, List.map_id] using hrest⟩
  cases expErr dg (growKids (fmtOf dg) rn ancP lvl ts) <;> rfl

theorem assemble_root (dg : defaultGrowerSimple) (t : T) (h : Heap) (r : Ptr) (fuel : Nat)
    (hr : Repr h t r 0 1) (hnd : (ptrs h t r).Nodup) (hf : 2 * t.size + 1 ≤ fuel) :
    ∃ h', defaultGrowerSimple.assemble fuel h dg r = some (h', expErr dg (growRoot (fmtOf dg) t)) ∧
      (expErr dg (growRoot (fmtOf dg) t) = none →
        SameShape h h' ∧ (∀ q, q ∉ ptrs h t r → h' q = h q) ∧ readNode h' t r 1 = growRoot (fmtOf dg) t) := by
  obtain ⟨h', hrun, hrest⟩ := trav_root (assembleBranch_grows dg) () hr hnd hf
  exact ⟨h', (assemble_isTrav dg).run hrun, by simpa only [runAll_valObs, List.map_id] using hrest⟩

/-- `defaultGrowerSimple.grow` is what every simple-mode operation calls before it prints, walks, creates or verifies -/
theorem grow_forest (dg : defaultGrowerSimple) (ts : List T) (h : Heap) (rs : List Ptr) (fuel : Nat)
    (hr : ReprRoots h ts rs) (hnd : (ptrsKids h ts rs).Nodup) (hf : 2 * sizeList ts + 1 ≤ fuel) :
    ∃ h', defaultGrowerSimple.grow fuel h dg rs = some (h', expErr dg (ts.flatMap (growRoot (fmtOf dg)))) ∧
      (expErr dg (ts.flatMap (growRoot (fmtOf dg))) = none →
        SameShape h h' ∧ (∀ q, q ∉ ptrsKids h ts rs → h' q = h q) ∧
        readKids h' ts rs 1 = ts.flatMap (growRoot (fmtOf dg))) := by
  obtain ⟨h', hrun, hrest⟩ := trav_forest_loop (assembleBranch_grows dg) () hr hnd hf
  replace hrun := (assemble_isTrav dg).loop hrun
  refine ⟨h', ?_, by simpa only [runAll_valObs, List.map_id] using hrest⟩
  -- the translated `grow` with the lambda of its loop folded into `plainBody` (equal by `rfl`): `rw [hrun]` needs that form
  show (match Go.forRange rs h (plainBody fun h p => defaultGrowerSimple.assemble fuel h dg p) with
    | Go.Ctl.ret r_ => r_
    | Go.Ctl.brk st_ | Go.Ctl.next st_ => some (st_, none)) = _
  rw [hrun]
  cases expErr dg (ts.flatMap (growRoot (fmtOf dg))) <;> rfl

theorem grow_forest_off (dg : defaultGrowerSimple) (hv : dg.enabledValidation = false) (ts : List T) (h : Heap)
    (rs : List Ptr) (fuel : Nat) (hr : ReprRoots h ts rs) (hnd : (ptrsKids h ts rs).Nodup)
    (hf : 2 * sizeList ts + 1 ≤ fuel) :
    ∃ h', defaultGrowerSimple.grow fuel h dg rs = some (h', none) ∧
      Grown h h' (ptrsKids h ts rs) (readKids h' ts rs 1) (ts.flatMap (growRoot (fmtOf dg))) := by
  obtain ⟨h', hrun, hrest⟩ := grow_forest dg ts h rs fuel hr hnd hf
  rw [expErr_off hv] at hrun hrest
  exact ⟨h', hrun, hrest rfl⟩

/-- the hypotheses are satisfiable: `r` with children `a` (with child `c`) and `b`, at the pointers 1, 2, 3, 4; stale
    branches and paths everywhere -/
def exHeap : Heap := fun p =>
  match p with
  | 1 => { name := [0x72], hierarchy := 1, index := 0, brnch := ⟨[0x21], [0x21]⟩, parent := 0, children := [2, 4] }
  | 2 => { name := [0x61], hierarchy := 2, index := 1, brnch := ⟨[0x21], [0x21]⟩, parent := 1, children := [3] }
  | 3 => { name := [0x63], hierarchy := 3, index := 2, brnch := ⟨[0x21], [0x21]⟩, parent := 2, children := [] }
  | 4 => { name := [0x62], hierarchy := 2, index := 3, brnch := ⟨[0x21], [0x21]⟩, parent := 1, children := [] }
  | _ => { name := [], hierarchy := 0, index := 0, brnch := ⟨[], []⟩, parent := 0, children := [] }

def exTree : T := .mk [0x72] [.mk [0x61] [.mk [0x63] []], .mk [0x62] []]

example : Repr exHeap exTree 1 0 1 ∧ (ptrs exHeap exTree 1).Nodup := by
  refine ⟨?_, by decide⟩
  have leaf : ∀ (p par : Ptr) (lvl : Nat) (n : Bytes), p ≠ 0 → (exHeap p).name = n → (exHeap p).hierarchy = (lvl : Int) →
      (exHeap p).parent = par → (exHeap p).children = [] → Repr exHeap (.mk n []) p par lvl := by
    intro p par lvl n h0 h1 h2 h3 h4
    rw [Repr]; exact ⟨h0, h1, h2, h3, by rw [ReprKids]; exact h4⟩
  rw [exTree, Repr]
  refine ⟨by decide, rfl, rfl, rfl, ?_⟩
  rw [ReprKids]
  refine ⟨2, [4], rfl, ?_, ?_⟩
  · rw [Repr]
    refine ⟨by decide, rfl, rfl, rfl, ?_⟩
    rw [ReprKids]
    exact ⟨3, [], rfl, leaf 3 2 3 _ (by decide) rfl rfl rfl rfl, rfl⟩
  · rw [ReprKids]
    exact ⟨4, [], rfl, leaf 4 1 2 _ (by decide) rfl rfl rfl rfl, rfl⟩

end Gtree.SrcH
