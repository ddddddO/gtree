import Gtree.Generated.Facts
import Gtree.Lemmas.Lookup
/-
  What the workers of the massive mode's stages run for one root (hand-written expectation), against what the fact
  extractor found in pipeline_tree_*.go on this run.  A stage type embeds the simple mode's type and declares no
  method of the called names itself, so the calls are the promoted methods: the functions translated in heap mode.
-/
namespace Gtree

/-- stage type ↦ (the simple-mode type it embeds, the per-root methods its worker calls) -/
def expectedWorkers : List (String × String × List String) :=
  [("defaultGrowerPipeline", "defaultGrowerSimple", ["assemble"]),
   ("defaultMkdirerPipeline", "defaultMkdirerSimple", ["isExistRoot", "makeDirectoriesAndFiles"]),
   ("defaultSpreaderPipeline", "defaultSpreaderSimple", ["Lock", "Unlock", "spreadBranch"]),
   ("defaultVerifierPipeline", "defaultVerifierSimple", ["handleErr", "verifyRoot"]),
   ("defaultWalkerPipeline", "defaultWalkerSimple", ["walkNode"])]

def workerOk (e : String × String × List String) : Bool :=
  (lookupL e.1 Facts.pipeEmbeds).contains e.2.1 &&
  lookupL e.1 Facts.workerCalls == e.2.2 &&
  e.2.2.all (fun m => !(lookupL e.1 Facts.pipeMethods).contains m)

theorem workers_run_the_simple_functions :
    expectedWorkers.all workerOk = true ∧ Facts.workerCalls.length = expectedWorkers.length := by decide +kernel

end Gtree
