import Gtree.Lemmas.FSChanges
import Gtree.Model.MkOps
/-
  The simple verifier reports what the first of the massive mode's per-root workers that reports would report; and
  the verdict depends on the file system only through `lookup`, not on the order of its entries.
-/
namespace Gtree

theorem verifyRoots_eq_findSome (fs : FS) (target : Bytes) (strict : Bool) : ∀ (roots : List (List Visit)),
    verifyRoots fs target strict roots = roots.findSome? (verifyOne fs target strict)
  | [] => rfl
  | vs :: rest => by
    rw [verifyRoots, List.findSome?_cons, verifyOne, ← verifyRoots_eq_findSome fs target strict rest]
    cases verifyRoot fs target vs with
    | error e => rfl
    | ok d => dsimp only; split <;> rfl

theorem mem_under_iff (fs : FS) (root q : Bytes) : q ∈ fs.under root ↔ fs.lookup q ≠ none ∧ isBelow root q = true := by
  rw [lookup_ne_none_iff]
  unfold FS.under
  simp only [List.mem_map, List.mem_filter]
  constructor
  · rintro ⟨x, ⟨hm, hb⟩, rfl⟩
    exact ⟨⟨x, hm, rfl⟩, hb⟩
  · rintro ⟨⟨x, hm, rfl⟩, hb⟩
    exact ⟨x, ⟨hm, hb⟩, rfl⟩

theorem stat_go_ext {a b : FS} (h : ∀ p, a.lookup p = b.lookup p) : ∀ l, FS.stat.go a l = FS.stat.go b l
  | [] => rfl
  | [q] => by simp only [FS.stat.go, FS.kindOf, h]
  | q :: q2 :: qs => by simp only [FS.stat.go, FS.kindOf, h, stat_go_ext h (q2 :: qs)]

theorem filter_isEmpty_congr {α : Type} (l1 l2 : List α) (p : α → Bool) (h : ∀ x, x ∈ l1 ↔ x ∈ l2) :
    (l1.filter p).isEmpty = (l2.filter p).isEmpty := by
  rw [Bool.eq_iff_iff, List.isEmpty_iff, List.isEmpty_iff, List.filter_eq_nil_iff, List.filter_eq_nil_iff]
  simp only [h]

/-- only "nothing to report" is the same on both: the "extra" lists follow the order of the entries, so they may differ
    as lists, but they are empty together -/
theorem verifyOne_none_ext {a b : FS} (h : ∀ p, a.lookup p = b.lookup p) (target : Bytes) (strict : Bool) (vs : List Visit) :
    verifyOne a target strict vs = none ↔ verifyOne b target strict vs = none := by
  unfold verifyOne verifyRoot
  cases vs.head? with
  | none => exact Iff.rfl
  | some r =>
    simp only [show ∀ p, a.stat p = b.stat p from fun p => by simp only [FS.stat, stat_go_ext h]]
    generalize filepathJoin [target, r.path] = root
    generalize vs.map (fun v => filepathJoin [target, v.path]) = want
    cases b.stat root with
    | error e => cases e <;> exact Iff.rfl
    | ok k =>
      cases k with
      | file n => exact Iff.rfl
      | dir =>
        have hmem : ∀ p, p ∈ root :: a.under root ↔ p ∈ root :: b.under root := fun p => by
          simp only [List.mem_cons, mem_under_iff, h]
        have hmiss : want.filter (fun p => !(root :: a.under root).contains p) =
            want.filter (fun p => !(root :: b.under root).contains p) := List.filter_congr fun p _ => by
          rw [Bool.eq_iff_iff]; simp only [Bool.not_eq_true', List.contains_eq_mem, decide_eq_false_iff_not, hmem]
        simp only [hmiss, filter_isEmpty_congr _ _ (fun p => !want.contains p) hmem]
        split
        · exact ⟨nofun, nofun⟩
        · exact Iff.rfl

end Gtree
