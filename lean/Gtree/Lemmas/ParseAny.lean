import Gtree.Model.Parser
import Gtree.Lemmas.Bytes
import Gtree.Spec.Malformed
/-
  `separateRow` and `parse` on an arbitrary row, from every parser state: a row is its blanks, then a first
  other byte, then the rest; what happens is what the attempt with that byte does (`ownAttempt`).
-/
namespace Gtree

/-- `st` with `c` latched as the indent character unless one is latched already: what an attempt on a row
    indented with `c` does first -/
def presep (st : PState) (c : UInt8) : PState :=
  if st.sep.isNone then { st with sep := some c } else st

theorem presep_idem (st : PState) (c : UInt8) : presep (presep st c) c = presep st c := by
  unfold presep
  cases h : st.sep <;> simp [h]

theorem presep_eq (st : PState) (c : UInt8) (h : st.sep = none ∨ st.sep = some c) :
    presep st c = { st with sep := some c } := by
  unfold presep
  rcases h with h | h
  · simp [h]
  · cases st; simp_all

theorem presep_spaces (st : PState) (c : UInt8) : (presep st c).spaces = st.spaces := by
  unfold presep; split <;> rfl

theorem presep_sharp (st : PState) (c : UInt8) : (presep st c).sharp = st.sharp := by
  unfold presep; split <;> rfl

theorem presep_sep_some (st : PState) (c : UInt8) : ∃ d, (presep st c).sep = some d := by
  unfold presep
  cases h : st.sep with
  | none => exact ⟨c, by simp⟩
  | some d => exact ⟨d, by simp [h]⟩

/-- the latched indent character, if any, is a blank -/
def SepOK (st : PState) : Prop := st.sep = none ∨ st.sep = some sp ∨ st.sep = some tab

theorem sepOK_presep (st : PState) (c : UInt8) (hok : SepOK st) (hc : c = sp ∨ c = tab) : SepOK (presep st c) := by
  unfold SepOK presep
  rcases hok with h | h | h
  · rcases hc with rfl | rfl <;> simp [h]
  · simp [h]
  · simp [h]

/-- the attempt with the row's own bullet symbol, as a function of what `cut` finds before the symbol (`ind`) and
    after it (`tl`) -/
def ownAttempt (st : PState) (ind tl : Bytes) : PState × Option (Nat × Bytes) :=
  match ind with
  | [] => ({ st with sep := none }, some (0, tl))
  | c :: _ =>
    let st1 := presep st c
    let n := countB (st1.sep.getD c) ind
    if n != ind.length then (st1, none)
    else
      let st2 : PState := if n > 0 && st1.spaces == 0 then { st1 with spaces := n } else st1
      if st2.spaces ≤ 1 then (st2, some (n, tl))
      else if n % st2.spaces != 0 then (st2, none)
      else (st2, some (n, tl))

theorem attempt_cut_nil (st : PState) (row : Bytes) (s : UInt8) (aft : Bytes) (hc : cut s row = some ([], aft)) :
    attempt st row s = ({ st with sep := none }, some (0, aft)) := by
  simp only [attempt, hc]

theorem attempt_cut_cons (st : PState) (row : Bytes) (s c : UInt8) (tl aft : Bytes)
    (hc : cut s row = some (c :: tl, aft)) :
    attempt st row s = if isIndentByte c then ownAttempt st (c :: tl) aft else (st, none) := by
  unfold attempt ownAttempt presep isIndentByte
  simp only [hc]

theorem calcH_unindented (st : PState) (m : Nat) (h : st.sep = none) :
    calculateHierarchy st m = m + 1 + (if st.sharp then 1 else 0) := by
  unfold calculateHierarchy
  simp only [h, Option.isNone_none, Bool.or_true, if_true]
  split <;> rfl

theorem calcH_sep (st : PState) (c : UInt8) (m : Nat) (hs : st.sep = some c) (hu : st.spaces ≠ 0) :
    calculateHierarchy st m = m / st.spaces + 1 + (if st.sharp then 1 else 0) := by
  unfold calculateHierarchy
  have h0 : (st.spaces == 0) = false := by simpa using hu
  simp only [hs, Option.isNone_some, Bool.or_false, h0, Bool.false_eq_true, if_false]
  split <;> rfl

theorem calcH_pos (st : PState) (k : Nat) : 1 ≤ calculateHierarchy st k := by
  rw [calculateHierarchy]
  cases st.sharp <;> cases (st.spaces == 0 || st.sep.isNone) <;> exact Nat.succ_pos _

theorem isIndentByte_of (c : UInt8) (hc : c = sp ∨ c = tab) : isIndentByte c = true := by
  rcases hc with rfl | rfl <;> rfl

theorem isBulletByte_iff (b : UInt8) : isBulletByte b = true ↔ b = hy ∨ b = ast ∨ b = pls := by
  simp [isBulletByte, or_assoc]

theorem isSymbolByte_of_bullet (b : UInt8) (hb : isBulletByte b = true) : isSymbolByte b = true := by
  rcases (isBulletByte_iff b).mp hb with rfl | rfl | rfl <;> rfl

theorem not_indent_of_bullet (b : UInt8) (hb : isBulletByte b = true) : isIndentByte b = false := by
  rcases (isBulletByte_iff b).mp hb with rfl | rfl | rfl <;> rfl

theorem not_mem_blanks (ind : Bytes) (b : UInt8) (hind : ∀ y ∈ ind, y = sp ∨ y = tab) (hb : isIndentByte b = false) :
    b ∉ ind := by
  intro h
  rcases hind b h with e | e <;> simp [isIndentByte, e] at hb

theorem row_split : ∀ row : Bytes, row = indentOf row ++ afterIndent row
  | [] => rfl
  | b :: rest => by
    unfold indentOf afterIndent
    by_cases h : isIndentByte b = true
    · simp only [h, if_true, List.cons_append]
      rw [← row_split rest]
    · simp [h]

theorem indentOf_blank (row : Bytes) (x : UInt8) (h : x ∈ indentOf row) : x = sp ∨ x = tab := by
  induction row with
  | nil => simp [indentOf] at h
  | cons b rest ih =>
    unfold indentOf at h
    by_cases hb : isIndentByte b = true
    · simp only [hb, if_true, List.mem_cons] at h
      rcases h with rfl | h
      · simpa [isIndentByte] using hb
      · exact ih h
    · simp [hb] at h

theorem afterIndent_head (row : Bytes) (x : UInt8) (tl : Bytes) (h : afterIndent row = x :: tl) : isIndentByte x = false := by
  induction row with
  | nil => simp [afterIndent] at h
  | cons b rest ih =>
    unfold afterIndent at h
    by_cases hb : isIndentByte b = true
    · simp only [hb, if_true] at h
      exact ih h
    · simp only [hb, Bool.false_eq_true, if_false, List.cons.injEq] at h
      obtain ⟨rfl, _⟩ := h
      simpa using hb

theorem indentOf_append (ind rest : Bytes) (h : ∀ y ∈ ind, y = sp ∨ y = tab) : indentOf (ind ++ rest) = ind ++ indentOf rest := by
  induction ind with
  | nil => rfl
  | cons c ind ih =>
    have hc : isIndentByte c = true := isIndentByte_of c (h c (by simp))
    simp only [List.cons_append, indentOf, hc, if_true, ih (fun y hy => h y (by simp [hy]))]

theorem attempt_own (st : PState) (ind tl : Bytes) (b : UInt8)
    (hind : ∀ y ∈ ind, y = sp ∨ y = tab) (hbn : b ∉ ind) :
    attempt st (ind ++ b :: tl) b = ownAttempt st ind tl := by
  have hcut := cut_own ind tl b hbn
  cases ind with
  | nil => exact attempt_cut_nil st _ b tl hcut
  | cons c ind' => rw [attempt_cut_cons st _ b c ind' tl hcut, if_pos (isIndentByte_of c (hind c (by simp)))]

/-- with a unit ≤ 1 every indentation is a whole multiple -/
theorem ite_unit_le_one {α : Type} (u m : Nat) (x y : α) :
    (if u ≤ 1 then y else if (m % u != 0) = true then x else y) = if (decide (2 ≤ u) && m % u != 0) = true then x else y := by
  by_cases h1 : u ≤ 1
  · rw [if_pos h1, show decide (2 ≤ u) = false from decide_eq_false (Nat.not_le.mpr (Nat.lt_succ_of_le h1)),
      Bool.false_and, if_neg Bool.false_ne_true]
  · rw [if_neg h1, show decide (2 ≤ u) = true from decide_eq_true (Nat.lt_of_not_le h1), Bool.true_and]

/-- The attempt on a row indented by `c :: ind'`, in closed form; `d` is the blank latched once `c` has been seen.
    If some indent byte is not `d` the attempt fails and the state is `presep st c`.  Otherwise the unit is the known
    one, or this row's indentation `m` if none is known; the row is refused iff `2 ≤ unit` and `m` is no multiple of it,
    and refused or not the state is `presep st c` with that unit. -/
theorem ownAttempt_cons (st : PState) (c : UInt8) (ind' tl : Bytes) (d : UInt8)
    (hd : (presep st c).sep = some d) :
    ownAttempt st (c :: ind') tl =
      if !((c :: ind').all (· == d)) then (presep st c, none)
      else
        let m := ind'.length + 1
        let unit := if st.spaces == 0 then m else st.spaces
        if 2 ≤ unit && m % unit != 0 then (({ presep st c with spaces := unit } : PState), none)
        else (({ presep st c with spaces := unit } : PState), some (m, tl)) := by
  -- the `let`s stay folded and become variables (unfolded, every step walks several copies of `st2`): what is left is a
  -- small tree of tests over `st1`, `n`, `st2`, `m`, `unit`
  unfold ownAttempt
  dsimp -zeta only
  extract_lets st1 n st2 m unit
  have hn : n = countB d (c :: ind') := by unfold n st1; rw [hd, Option.getD_some]
  cases hall : (c :: ind').all (· == d)
  · have h1 : n ≠ (c :: ind').length := fun e =>
      Bool.false_ne_true (hall.symm.trans ((countB_eq_length_iff d).mp (hn ▸ e)))
    exact if_pos (bne_iff_ne.mpr h1)
  · have hm : n = (c :: ind').length := hn.trans ((countB_eq_length_iff d).mpr hall)
    -- the unit is learnt from this row if none was known
    have h2 : st2 = { st1 with spaces := unit } := by
      unfold st2 unit
      rw [hm, List.length_cons, ← presep_spaces st c, decide_eq_true (Nat.succ_pos _), Bool.true_and]
      cases st1.spaces == 0 <;> rfl
    clear_value n st2
    subst hm h2
    rw [if_neg (ne_true_of_eq_false (bne_self_eq_false _)), if_neg (ne_true_of_eq_false Bool.not_true)]
    exact ite_unit_le_one unit m _ _

theorem learntUnit_ne_zero (known m : Nat) : (if known == 0 then m + 1 else known) ≠ 0 := by
  split
  · exact Nat.succ_ne_zero m
  · rename_i h0; simpa using h0

/-- an indentation of `m ≥ 1` bytes that is a whole multiple of the unit is at least one level deep -/
theorem one_le_div_unit (u m : Nat) (hu : u ≠ 0) (hm : 2 ≤ u → m % u = 0) (hpos : 0 < m) : 1 ≤ m / u := by
  refine Nat.div_pos ?_ (Nat.pos_of_ne_zero hu)
  by_cases h1 : u ≤ 1
  · exact Nat.le_trans h1 hpos
  · exact Nat.le_of_dvd hpos (Nat.dvd_of_mod_eq_zero (hm (Nat.lt_of_not_le h1)))

theorem ownAttempt_cons_fst (st : PState) (c : UInt8) (ind' tl : Bytes) :
    ∃ v, (st.spaces ≠ 0 → v = st.spaces) ∧ (ownAttempt st (c :: ind') tl).1 = { presep st c with spaces := v } := by
  obtain ⟨d, hd⟩ := presep_sep_some st c
  rw [ownAttempt_cons st c ind' tl d hd]
  dsimp only
  generalize hu : (if st.spaces == 0 then ind'.length + 1 else st.spaces) = u
  have hu' : st.spaces ≠ 0 → u = st.spaces := fun h0 => by simp [← hu, h0]
  by_cases hbad : (!(c :: ind').all (· == d)) = true
  · rw [if_pos hbad]
    exact ⟨st.spaces, fun _ => rfl, by rw [← presep_spaces st c]⟩
  · rw [if_neg hbad]
    split <;> exact ⟨u, hu', rfl⟩

/-- a failed attempt may latch the indent character, which changes nothing for the attempt with the row's own symbol -/
theorem attempt_other (st : PState) (ind tl : Bytes) (x s : UInt8)
    (hind : ∀ y ∈ ind, y = sp ∨ y = tab) (hx : isIndentByte x = false) (hs : isIndentByte s = false)
    (hxs : x ≠ s) :
    ∃ st', attempt st (ind ++ x :: tl) s = (st', none) ∧ ∀ tl', ownAttempt st' ind tl' = ownAttempt st ind tl' := by
  have hcut := cut_append_not_mem s ind (x :: tl) (not_mem_blanks ind s hind hs)
  rw [cut_cons_ne s x tl hxs] at hcut
  cases hc : cut s tl with
  | none => exact ⟨st, by simp [attempt, hcut, hc], fun _ => rfl⟩
  | some p =>
    obtain ⟨l, r⟩ := p
    rw [hc] at hcut
    cases ind with
    | nil =>
      exact ⟨st, by rw [attempt_cut_cons st _ s x l r hcut, if_neg (Bool.eq_false_iff.mp hx)], fun _ => rfl⟩
    | cons c ind' =>
      have hcb := hind c (by simp)
      obtain ⟨d, hd⟩ := presep_sep_some st c
      refine ⟨presep st c, ?_, fun _ => by simp only [ownAttempt, presep_idem]⟩
      rw [attempt_cut_cons st _ s c (ind' ++ x :: l) r hcut, if_pos (isIndentByte_of c hcb),
        ownAttempt_cons st c _ r d hd, if_pos]
      -- `c` is a blank and `x` is not, so they are not both the latched character
      rw [Bool.not_eq_true', Bool.eq_false_iff]
      intro hall
      rw [List.all_eq_true] at hall
      have hxc : x = c := (eq_of_beq (hall x (by simp))).trans (eq_of_beq (hall c (by simp))).symm
      exact Bool.noConfusion ((isIndentByte_of c hcb).symm.trans (hxc ▸ hx))

theorem separateRowAux_of_fail (row : Bytes) (pre post : List UInt8) (st st' : PState)
    (h : separateRowAux st row pre = (st', none)) : separateRowAux st row (pre ++ post) = separateRowAux st' row post := by
  induction pre generalizing st with
  | nil =>
    simp only [separateRowAux, Prod.mk.injEq, and_true] at h
    rw [h]; rfl
  | cons s pre ih =>
    simp only [separateRowAux, List.cons_append] at h ⊢
    cases ha : attempt st row s with
    | mk s1 r =>
      rw [ha] at h
      cases r with
      | some v => simp at h
      | none => exact ih s1 h

theorem separateRowAux_others (ind tl : Bytes) (x : UInt8)
    (hind : ∀ y ∈ ind, y = sp ∨ y = tab) (hx : isIndentByte x = false)
    (ss : List UInt8) (st : PState) (h : ∀ s ∈ ss, isIndentByte s = false ∧ x ≠ s) :
    ∃ st', separateRowAux st (ind ++ x :: tl) ss = (st', none) ∧ ∀ tl', ownAttempt st' ind tl' = ownAttempt st ind tl' := by
  induction ss generalizing st with
  | nil => exact ⟨st, rfl, fun _ => rfl⟩
  | cons s ss ih =>
    obtain ⟨s1, h1, l1⟩ := attempt_other st ind tl x s hind hx (h s (by simp)).1 (h s (by simp)).2
    obtain ⟨s2, h2, l2⟩ := ih s1 (fun s' hs' => h s' (by simp [hs']))
    exact ⟨s2, by simp only [separateRowAux, h1, h2], fun tl' => (l2 tl').trans (l1 tl')⟩

theorem separateRow_other (st : PState) (ind tl : Bytes) (x : UInt8)
    (hind : ∀ y ∈ ind, y = sp ∨ y = tab) (hx : isIndentByte x = false) (hnb : isBulletByte x = false) :
    (separateRow st (ind ++ x :: tl)).2 = none := by
  obtain ⟨st', h, _⟩ := separateRowAux_others ind tl x hind hx listSymbols st (by
    intro s hs
    simp only [listSymbols, List.mem_cons, List.not_mem_nil, or_false] at hs
    rcases hs with rfl | rfl | rfl <;> exact ⟨by decide, fun e => by simp [isBulletByte, e] at hnb⟩)
  rw [separateRow, h]

theorem separateRow_no_bullet (st : PState) (ind tl : Bytes) (x : UInt8)
    (hind : ∀ y ∈ ind, y = sp ∨ y = tab) (hx : isIndentByte x = false) (hnb : isBulletByte x = false)
    (hok : SepOK st) :
    (separateRow st (ind ++ x :: tl)).2 = none :=
  -- stated under the invariant `Rel` carries (`Rel.ok`); it holds without it, as `separateRow_other`
  have _ := hok
  separateRow_other st ind tl x hind hx hnb

theorem separateRowAux_own (st st' : PState) (ind tl : Bytes) (b : UInt8) (pre post : List UInt8)
    (r : Option (Nat × Bytes)) (hind : ∀ y ∈ ind, y = sp ∨ y = tab) (hb : isIndentByte b = false)
    (hpre : ∀ s ∈ pre, isIndentByte s = false ∧ b ≠ s) (hpost : ∀ s ∈ post, isIndentByte s = false ∧ b ≠ s)
    (h : ownAttempt st ind tl = (st', r)) :
    match r with
    | some v => separateRowAux st (ind ++ b :: tl) (pre ++ b :: post) = (st', some v)
    | none => (separateRowAux st (ind ++ b :: tl) (pre ++ b :: post)).2 = none := by
  obtain ⟨s1, h1, l1⟩ := separateRowAux_others ind tl b hind hb pre st hpre
  have hown : attempt s1 (ind ++ b :: tl) b = (st', r) := by
    rw [attempt_own s1 ind tl b hind (not_mem_blanks ind b hind hb), l1, h]
  rw [separateRowAux_of_fail _ pre _ st s1 h1, separateRowAux, hown]
  cases r with
  | some v => rfl
  | none =>
    obtain ⟨s3, h3, _⟩ := separateRowAux_others ind tl b hind hb post st' hpost
    simp only [h3]

theorem separateRow_own (st st' : PState) (ind tl : Bytes) (b : UInt8) (r : Option (Nat × Bytes))
    (hind : ∀ y ∈ ind, y = sp ∨ y = tab) (hb : isBulletByte b = true) (h : ownAttempt st ind tl = (st', r)) :
    match r with
    | some v => separateRow st (ind ++ b :: tl) = (st', some v)
    | none => (separateRow st (ind ++ b :: tl)).2 = none := by
  rcases (isBulletByte_iff b).mp hb with rfl | rfl | rfl
  · exact separateRowAux_own st st' ind tl hy [] [ast, pls] r hind (by decide) (by decide) (by decide) h
  · exact separateRowAux_own st st' ind tl ast [hy] [pls] r hind (by decide) (by decide) (by decide) h
  · exact separateRowAux_own st st' ind tl pls [hy, ast] [] r hind (by decide) (by decide) (by decide) h

theorem separateRow_bullet (st : PState) (ind tl : Bytes) (b : UInt8)
    (hind : ∀ y ∈ ind, y = sp ∨ y = tab) (hb : isBulletByte b = true) (hok : SepOK st) :
    ((attempt st (ind ++ b :: tl) b).2 = none → (separateRow st (ind ++ b :: tl)).2 = none) ∧
    (∀ v, (attempt st (ind ++ b :: tl) b).2 = some v → separateRow st (ind ++ b :: tl) = attempt st (ind ++ b :: tl) b) := by
  -- `separateRow_own` read with `attempt` for `ownAttempt`; `hok` as in `separateRow_no_bullet`
  have _ := hok
  rw [attempt_own st ind tl b hind (not_mem_blanks ind b hind (not_indent_of_bullet b hb))]
  cases hown : ownAttempt st ind tl with
  | mk st' r =>
    have h := separateRow_own st st' ind tl b r hind hb hown
    cases r with
    | some v => exact ⟨fun e => (nomatch e), fun _ _ => h⟩
    | none => exact ⟨fun _ => h, fun _ e => (nomatch e)⟩

theorem head_listRow (c b : UInt8) (m : Nat) (rest : Bytes) (hc : c = sp ∨ c = tab) (hb : isBulletByte b = true) :
    (List.replicate m c ++ b :: rest).head? ≠ some shp := by
  cases m with
  | zero => rcases (isBulletByte_iff b).mp hb with rfl | rfl | rfl <;> simp [hy, ast, pls, shp]
  | succ m => rcases hc with rfl | rfl <;> simp [List.replicate_succ, sp, tab, shp]

theorem parse_list (st : PState) (row : Bytes) (hnb : isBlank row = false) (hhead : row.head? ≠ some shp) :
    parse st row =
      (match separateRow st row with
       | (st', none) => (st', .error .incorrect)
       | (st', some (spaceCount, afterText)) =>
         let text := trimPrefixB sp afterText
         if text.isEmpty then (st', .error .emptyText)
         else (st', .ok (calculateHierarchy st' spaceCount, text))) := by
  unfold parse
  rw [if_neg (hnb ▸ Bool.false_ne_true)]
  split
  · exact absurd rfl hhead
  · rfl

theorem parse_heading (p : PState) (after : Bytes) :
    parse p (shp :: after) =
      (if (trimB sp (trimLeftB shp after)).isEmpty then ({ p with sharp := true }, .error .emptyText)
       else ({ p with sharp := true }, .ok (1, trimB sp (trimLeftB shp after)))) := by
  unfold parse
  rw [if_neg (isBlank_symbol_row shp rfl after ▸ Bool.false_ne_true)]
  rfl

theorem parse_of_separateRow_none (st : PState) (row : Bytes) (hnb : isBlank row = false) (hhead : row.head? ≠ some shp)
    (h : (separateRow st row).2 = none) : (parse st row).2 = .error .incorrect := by
  rw [parse_list st row hnb hhead]
  cases hs : separateRow st row with
  | mk st' r => rw [hs] at h; simp only at h; subst h; rfl

theorem parse_row (st : PState) (row : Bytes) (hnb : isBlank row = false) (hhead : row.head? ≠ some shp) :
    ∃ x tl, afterIndent row = x :: tl ∧
      match isBulletByte x, ownAttempt st (indentOf row) tl with
      | true, (st', some (k, after)) =>
        parse st row = (if (trimPrefixB sp after).isEmpty then (st', .error .emptyText)
          else (st', .ok (calculateHierarchy st' k, trimPrefixB sp after)))
      | _, _ => (parse st row).2 = .error .incorrect := by
  have hsplit := row_split row
  have hind := indentOf_blank row
  have hfail := parse_of_separateRow_none st row hnb hhead
  cases hai : afterIndent row with
  | nil =>
    rw [hai, List.append_nil] at hsplit
    rw [hsplit, isBlank_of_blanks _ hind] at hnb
    cases hnb
  | cons x tl =>
    rw [hai] at hsplit
    refine ⟨x, tl, rfl, ?_⟩
    cases hbu : isBulletByte x with
    | false => exact hfail (hsplit ▸ separateRow_other st _ tl x hind (afterIndent_head row x tl hai) hbu)
    | true =>
      cases hown : ownAttempt st (indentOf row) tl with
      | mk st' r =>
        cases r with
        | none => exact hfail (hsplit ▸ separateRow_own st st' _ tl x none hind hbu hown)
        | some v =>
          have := separateRow_own st st' _ tl x (some v) hind hbu hown
          rw [← hsplit] at this
          simp only [parse_list st row hnb hhead, this]

theorem parse_bad_indent (st : PState) (row : Bytes) (c d : UInt8) (ind' : Bytes) (hnb : isBlank row = false)
    (hio : indentOf row = c :: ind') (hd : (presep st c).sep = some d) (hall : (c :: ind').all (· == d) = false) :
    (parse st row).2 = .error .incorrect := by
  have hhead : row.head? ≠ some shp := by
    have hs := row_split row
    rw [hio] at hs
    rw [hs]
    rcases indentOf_blank row c (by rw [hio]; simp) with e | e <;> simp [e, sp, tab, shp]
  obtain ⟨x, tl, _, h⟩ := parse_row st row hnb hhead
  rw [hio, ownAttempt_cons st c ind' tl d hd, hall] at h
  cases hb : isBulletByte x <;> simpa [hb] using h

end Gtree
