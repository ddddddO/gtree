import Gtree.Lemmas.HeapRepr
/-
  The growing traversals of the source — the grower (`assemble`), its tinywasm twin and the one-pass
  `assembleAndPrint` — are one pre-order traversal (`trav`) with three per-node steps; what a step has to do (`Grows`)
  is all the induction over a heap that holds a tree needs.  `trav` threads the observer's state (the writer of
  `assembleAndPrint`); the translated `assemble` of the two growers threads none, so the second half of the file
  (`liftAct`, `IsTrav`) reads such a function as `trav` over the state `Unit` with validation as the observer.
-/
namespace Gtree.SrcH
open Gtree Gtree.Go

variable {α : Type}

/-- the loop over children (or roots) of a traversal: stop at the first error -/
def travBody (run : Heap → α → Ptr → Option (Heap × α × Option Src.Err)) :
    Ptr → Heap × α → Ctl (Heap × α) (Option (Heap × α × Option Src.Err)) :=
  fun c st =>
    match run st.1 st.2 c with
    | none => .ret none
    | some r => if r.2.2.isSome then .ret (some r) else .next (r.1, r.2.1)

/-- pre-order traversal: the step on the node, then the children in order, stopping at the first error -/
def trav (act : Nat → Heap → α → Ptr → Option (Heap × α × Option Src.Err)) :
    Nat → Heap → α → Ptr → Option (Heap × α × Option Src.Err)
  | 0, _, _, _ => none
  | fuel + 1, h, a, p =>
    match act fuel h a p with
    | none => none
    | some r =>
      if r.2.2.isSome then some r
      else
        match forRange (r.1 p).children (r.1, r.2.1) (travBody (trav act fuel)) with
        | .ret r' => r'
        | .brk st | .next st => some (st.1, st.2, none)

/-- how the loop over children (or roots) ends on the heap `h'`, given what the observer has seen -/
def loopEnd (h' : Heap) (r : α × Option Src.Err) : Ctl (Heap × α) (Option (Heap × α × Option Src.Err)) :=
  match r.2 with
  | none => .next (h', r.1)
  | some e => .ret (some (h', r.1, some e))

/-- what a growing traversal has done when the observer saw no error: `h'` has the shape of `h` and differs from it at
    the pointers `ps` only, and the nodes now read (`got`) as the expected visits (`want`) -/
abbrev Grown (h h' : Heap) (ps : List Ptr) (got want : List Visit) : Prop :=
  SameShape h h' ∧ (∀ q, q ∉ ps → h' q = h q) ∧ got = want

/-- a per-node step of a growing traversal: it writes some branch into the node's own cell and nothing else, shows the
    model's visit of the node to the observer, and leaves the cell reading as `rd` of that visit.  `anc.length ≤ fuel`:
    `assembleBranch` spends the traversal's fuel on its own loop up the ancestors. -/
structure Grows (f : Fmt) (rd : Visit → Visit) (obs : Visit → α → α × Option Src.Err)
    (act : Nat → Heap → α → Ptr → Option (Heap × α × Option Src.Err)) : Prop where
  node : ∀ (h : Heap) (a : α) (cur root : Ptr) (lvl : Nat) (anc : List Anc) (fuel : Nat) (v : Visit),
    cur ≠ 0 → (h cur).hierarchy = (lvl : Int) → 2 ≤ lvl → Up h root (h cur).parent anc → anc.length ≤ fuel →
    v = ⟨(h cur).name, branchOf f (Node.isLastOfHierarchy h cur) anc, lvl,
          pathOf (h root).name (h cur).name anc, Node.hasChild h cur⟩ →
    ∃ b, act fuel h a cur = some (setBr h cur b, obs v a) ∧ visitAt (setBr h cur b) cur lvl = rd v
  root : ∀ (h : Heap) (a : α) (cur : Ptr) (fuel : Nat) (v : Visit),
    cur ≠ 0 → (h cur).hierarchy = 1 → (h cur).parent = 0 →
    v = ⟨(h cur).name, [], 1, (h cur).name, Node.hasChild h cur⟩ →
    ∃ b, act fuel h a cur = some (setBr h cur b, obs v a) ∧ visitAt (setBr h cur b) cur 1 = rd v

variable {f : Fmt} {rd : Visit → Visit} {obs : Visit → α → α × Option Src.Err}
  {act : Nat → Heap → α → Ptr → Option (Heap × α × Option Src.Err)}

/-- One round of the loop over the children (or roots), the step every induction over a forest takes.  `X` are the model's
    visits of the first subtree `t`, `Y` those of the remaining ones; `first` and `rest` are the two induction hypotheses
    of `forest_induct`, `rest` on any heap of the same shape because the first subtree has been written by then.  `hdisj`:
    the later subtrees write only their own cells, so what was read from the first one is still there at the end. -/
theorem trav_cons {run : Heap → α → Ptr → Option (Heap × α × Option Src.Err)}
    {h : Heap} {a : α} {t : T} {ts : List T} {c : Ptr} {cs : List Ptr} {lvl : Nat} {X Y : List Visit}
    (hdisj : ∀ q ∈ ptrs h t c, q ∉ ptrsKids h ts cs)
    (first : ∃ h1, run h a c = some (h1, runAll obs X a) ∧
      ((runAll obs X a).2 = none → Grown h h1 (ptrs h t c) (readNode h1 t c lvl) (X.map rd)))
    (rest : ∀ h1 a1, SameShape h h1 → ∃ h2, forRange cs (h1, a1) (travBody run) = loopEnd h2 (runAll obs Y a1) ∧
      ((runAll obs Y a1).2 = none → Grown h1 h2 (ptrsKids h1 ts cs) (readKids h2 ts cs lvl) (Y.map rd))) :
    ∃ h2, forRange (c :: cs) (h, a) (travBody run) = loopEnd h2 (runAll obs (X ++ Y) a) ∧
      ((runAll obs (X ++ Y) a).2 = none →
        Grown h h2 (ptrsKids h (t :: ts) (c :: cs)) (readKids h2 (t :: ts) (c :: cs) lvl) ((X ++ Y).map rd)) := by
  obtain ⟨h1, hrun1, hrest1⟩ := first
  rw [runAll_append, forRange, travBody, hrun1]
  rcases hk : runAll obs X a with ⟨a1, _ | e⟩
  case some => exact ⟨h1, rfl, fun he => nomatch he⟩
  obtain ⟨hs1, hfr1, hrd1⟩ := hrest1 (by rw [hk])
  obtain ⟨h2, hrun2, hrest2⟩ := rest h1 a1 hs1
  refine ⟨h2, hrun2, fun he => ?_⟩
  obtain ⟨hs2, hfr2, hrd2⟩ := hrest2 he
  rw [ptrsKids_shape hs1] at hfr2
  refine ⟨hs1.trans hs2, fun q hq => ?_, ?_⟩
  · rw [ptrsKids, List.mem_append, not_or] at hq
    rw [hfr2 q hq.2, hfr1 q hq.1]
  · rw [readKids, hrd2, List.map_append, ← hrd1]
    congr 1
    exact readNode_congr t c lvl fun q hq => by rw [ptrs_shape hs1] at hq; exact hfr2 q (hdisj q hq)

/-- what the loop of a growing traversal does over the children `cs` of `par` still to come, which hold `ts`; `pre` are
    those already done, so that a child's position among `(h par).children` is known (`isLast_child`) -/
def TravKids (f : Fmt) (rd : Visit → Visit) (obs : Visit → α → α × Option Src.Err)
    (act : Nat → Heap → α → Ptr → Option (Heap × α × Option Src.Err)) (root : Ptr) (rn : Bytes) (ts : List T) : Prop :=
  ∀ (h : Heap) (a : α) (par : Ptr) (pre cs : List Ptr) (lvl : Nat) (ancP : List Anc) (fuel : Nat),
    2 ≤ lvl → (h root).name = rn → ReprKids h ts cs par lvl → Up h root par ancP →
    (h par).children = pre ++ cs → ((h par).children).Nodup → (ptrsKids h ts cs).Nodup →
    2 * sizeList ts + ancP.length ≤ fuel →
    ∃ h', forRange cs (h, a) (travBody (trav act fuel)) =
        loopEnd h' (runAll obs (growKids f rn ancP lvl ts) a) ∧
      ((runAll obs (growKids f rn ancP lvl ts) a).2 = none →
        Grown h h' (ptrsKids h ts cs) (readKids h' ts cs lvl) ((growKids f rn ancP lvl ts).map rd))

/-- The node `p`, given its step and its children: if `act` has written the branch `b` into `p`'s cell and shown the
    observer the visit `v` (`hact`, `hrd`: an instance of `Grows.node` or `Grows.root`), and the loop over the children does
    what `TravKids` says below the ancestors `ctx` of those children, then `trav` at `p` sees `v` and then the children's
    visits.  `trav_node` and `trav_root` differ only in where `hact` and `ctx` come from. -/
theorem trav_step {n : Bytes} {ks : List T} {h : Heap} {a : α} {p root : Ptr} {rn : Bytes} {lvl fuel : Nat} {v : Visit}
    {b : Src.branch} {ctx : List Anc} (hk : TravKids f rd obs act root rn ks) (hnd : (ptrs h (.mk n ks) p).Nodup)
    (hact : act fuel h a p = some (setBr h p b, obs v a)) (hrd : visitAt (setBr h p b) p lvl = rd v)
    (hlvl : 1 ≤ lvl) (hrn : (h root).name = rn) (hr : ReprKids h ks (h p).children p (lvl + 1))
    (hup : Up h root p ctx) (hf : 2 * sizeList ks + ctx.length ≤ fuel) :
    ∃ h', trav act (fuel + 1) h a p = some (h', runAll obs (v :: growKids f rn ctx (lvl + 1) ks) a) ∧
      ((runAll obs (v :: growKids f rn ctx (lvl + 1) ks) a).2 = none →
        Grown h h' (ptrs h (.mk n ks) p) (readNode h' (.mk n ks) p lvl) ((v :: growKids f rn ctx (lvl + 1) ks).map rd)) := by
  rw [trav, hact, runAll]
  rcases obs v a with ⟨a1, _ | e⟩
  case some => exact ⟨_, rfl, fun he => nomatch he⟩
  have hs1 := SameShape.setBr h p b
  rw [ptrs, List.nodup_cons] at hnd
  obtain ⟨h2, hrun, hrest⟩ := hk (setBr h p b) a1 p [] (h p).children (lvl + 1) ctx fuel (Nat.succ_le_succ hlvl)
    ((hs1 root).1.trans hrn) (ReprKids_shape hs1 _ _ _ _ hr) ((Up_shape hs1 root _ _).mpr hup)
    (by rw [setBr_children]; rfl) (by rw [setBr_children]; exact hnd.2.sublist (kids_sublist h ks _ p (lvl + 1) hr))
    (by rw [ptrsKids_shape hs1]; exact hnd.2) hf
  simp only [Option.isSome_none, Bool.false_eq_true, if_false, setBr_children, hrun]
  rcases hobs : runAll obs (growKids f rn ctx (lvl + 1) ks) a1 with ⟨a2, _ | e⟩
  case some => exact ⟨h2, rfl, fun he => nomatch he⟩
  refine ⟨h2, rfl, fun _ => ?_⟩
  obtain ⟨hs2, hfr2, hrd2⟩ := hrest (by rw [hobs])
  rw [ptrsKids_shape hs1] at hfr2
  have h2p : h2 p = setBr h p b p := hfr2 p hnd.1
  refine ⟨hs1.trans hs2, fun q hq => ?_, ?_⟩
  · rw [ptrs, List.mem_cons, not_or] at hq
    rw [hfr2 q hq.2, setBr_other h p q b hq.1]
  · rw [readNode_eq, List.map_cons, ← hrd, visitAt_congr h2p, (hs2 p).2.2.2, setBr_children, hrd2]

theorem trav_node (G : Grows f rd obs act) {root : Ptr} {rn : Bytes} {t : T} (hk : TravKids f rd obs act root rn t.kids)
    {h : Heap} (a : α) {p par : Ptr} {lvl : Nat} {l : Bool} {anc : List Anc} {fuel : Nat}
    (hlvl : 2 ≤ lvl) (hrn : (h root).name = rn) (hr : Repr h t p par lvl) (hup : Up h root par anc)
    (hl : Node.isLastOfHierarchy h p = l) (hnd : (ptrs h t p).Nodup) (hf : 2 * t.size + anc.length ≤ fuel) :
    ∃ h', trav act fuel h a p = some (h', runAll obs (growNode f rn anc lvl l t) a) ∧
      ((runAll obs (growNode f rn anc lvl l t) a).2 = none →
        Grown h h' (ptrs h t p) (readNode h' t p lvl) ((growNode f rn anc lvl l t).map rd)) := by
  obtain ⟨n, ks⟩ := t
  change TravKids f rd obs act root rn ks at hk
  obtain ⟨fuel, rfl, hfa, hfk⟩ := fuel2_node hf
  have hr0 := hr
  rw [Repr] at hr
  obtain ⟨hp0, hpn, hpl, hpp, hk'⟩ := hr
  obtain ⟨b, hact, hrd⟩ := G.node h a p root lvl anc fuel _ hp0 hpl hlvl (hpp ▸ hup) hfa rfl
  rw [hpn, hl, hrn, hr0.hasChild] at hact hrd
  rw [growNode]
  exact trav_step hk hnd hact hrd (Nat.le_of_succ_le hlvl) hrn hk'
    ⟨hp0, ne_one_of_level hpl hlvl, hpn, hl, hpp ▸ hup⟩ hfk

theorem trav_kids (G : Grows f rd obs act) (root : Ptr) (rn : Bytes) (ts : List T) : TravKids f rd obs act root rn ts := by
  induction ts using forest_induct with
  | nil =>
    intro h a par pre cs lvl ancP fuel _ _ hr _ _ _ _ _
    rw [ReprKids] at hr
    subst hr
    exact ⟨h, rfl, fun _ => ⟨SameShape.refl h, fun _ _ => rfl, rfl⟩⟩
  | cons n ks ts ihk ihs =>
    intro h a par pre cs lvl ancP fuel hlvl hrn hr hup hch hcnd hnd hf
    rw [ReprKids] at hr
    obtain ⟨c, cs', rfl, hrc, hrs⟩ := hr
    have hcpar : (h c).parent = par := by rw [Repr] at hrc; exact hrc.2.2.2.1
    have hlast : Node.isLastOfHierarchy h c = ts.isEmpty := by
      rw [isLast_child h c par pre cs' hcpar (Up_ne_zero h root ancP par hup) hch hcnd, Bool.eq_iff_iff,
        List.isEmpty_iff_length_eq_zero, List.isEmpty_iff_length_eq_zero, ReprKids_length h ts cs' par lvl hrs]
    rw [ptrsKids, List.nodup_append] at hnd
    obtain ⟨hf1, hf2⟩ := fuel2_cons hf
    have hgk : growKids f rn ancP lvl (.mk n ks :: ts)
        = growNode f rn ancP lvl ts.isEmpty (.mk n ks) ++ growKids f rn ancP lvl ts := by
      cases ts <;> simp [growKids]
    rw [hgk]
    refine trav_cons (fun q hq hq2 => hnd.2.2 q hq q hq2 rfl)
      (trav_node G ihk a hlvl hrn hrc hup hlast hnd.1 hf1)
      fun h1 a1 hs1 => ?_
    exact ihs h1 a1 par (pre ++ [c]) cs' lvl ancP fuel hlvl
      ((hs1 root).1.trans hrn) (ReprKids_shape hs1 _ _ _ _ hrs) ((Up_shape hs1 root _ _).mpr hup)
      (by rw [(hs1 par).2.2.2, hch, List.append_assoc]; rfl)
      (by rw [(hs1 par).2.2.2]; exact hcnd) (by rw [ptrsKids_shape hs1]; exact hnd.2.1) hf2

theorem trav_root (G : Grows f rd obs act) {t : T} {h : Heap} (a : α) {r : Ptr} {fuel : Nat}
    (hr : Repr h t r 0 1) (hnd : (ptrs h t r).Nodup) (hf : 2 * t.size + 1 ≤ fuel) :
    ∃ h', trav act fuel h a r = some (h', runAll obs (growRoot f t) a) ∧
      ((runAll obs (growRoot f t) a).2 = none →
        Grown h h' (ptrs h t r) (readNode h' t r 1) ((growRoot f t).map rd)) := by
  obtain ⟨n, ks⟩ := t
  obtain ⟨fuel, rfl, _, hfk⟩ := fuel2_node hf
  have hr0 := hr
  rw [Repr] at hr
  obtain ⟨hp0, hpn, hpl, hpp, hk⟩ := hr
  obtain ⟨b, hact, hrd⟩ := G.root h a r fuel _ hp0 hpl hpp rfl
  rw [hpn, hr0.hasChild] at hact hrd
  rw [growRoot]
  exact trav_step (trav_kids G r n ks) hnd hact hrd (Nat.le_refl 1) hpn hk ⟨rfl, hp0, hpl⟩
    (Nat.le_trans (Nat.le_add_right _ 2) hfk)

theorem trav_forest_loop (G : Grows f rd obs act) {ts : List T} {h : Heap} (a : α) {rs : List Ptr} {fuel : Nat}
    (hr : ReprRoots h ts rs) (hnd : (ptrsKids h ts rs).Nodup) (hf : 2 * sizeList ts + 1 ≤ fuel) :
    ∃ h', forRange rs (h, a) (travBody (trav act fuel)) =
        loopEnd h' (runAll obs (ts.flatMap (growRoot f)) a) ∧
      ((runAll obs (ts.flatMap (growRoot f)) a).2 = none →
        Grown h h' (ptrsKids h ts rs) (readKids h' ts rs 1) ((ts.flatMap (growRoot f)).map rd)) := by
  induction ts generalizing h a rs with
  | nil =>
    obtain rfl : rs = [] := hr
    exact ⟨h, rfl, fun _ => ⟨SameShape.refl h, fun _ _ => rfl, rfl⟩⟩
  | cons t ts ih =>
    obtain ⟨r, rs', rfl, hrr, hrs⟩ := hr
    rw [ptrsKids, List.nodup_append] at hnd
    obtain ⟨hf1, hf2⟩ := fuel2_cons hf
    rw [List.flatMap_cons]
    refine trav_cons (fun q hq hq2 => hnd.2.2 q hq q hq2 rfl) (trav_root G a hrr hnd.1 hf1)
      fun h1 a1 hs1 => ?_
    exact ih a1 (ReprRoots_shape hs1 _ _ hrs) (by rw [ptrsKids_shape hs1]; exact hnd.2.1) hf2

/-- the error the grower returns for these nodes: the first validation failure in pre-order, when validation is on -/
def expErr (dg : defaultGrowerSimple) (vs : List Visit) : Option Src.Err :=
  if dg.enabledValidation then (validateVisits vs).map verrSrc else none

theorem expErr_off {dg : defaultGrowerSimple} (hv : dg.enabledValidation = false) (vs : List Visit) :
    expErr dg vs = none := by
  rw [expErr, hv]; rfl

/-- the grower's observer: validation of the node, when it is on -/
def valObs (dg : defaultGrowerSimple) : Visit → Unit → Unit × Option Src.Err :=
  fun v _ => ((), if dg.enabledValidation then (validateVisit v).map verrSrc else none)

theorem runAll_valObs (dg : defaultGrowerSimple) (vs : List Visit) : runAll (valObs dg) vs () = ((), expErr dg vs) := by
  induction vs with
  | nil => simp [runAll, expErr, validateVisits]
  | cons v vs ih =>
    rw [expErr] at ih ⊢
    rw [runAll, valObs, validateVisits]
    cases hv : dg.enabledValidation <;> simp only [hv, Bool.false_eq_true, if_false, if_true] at ih ⊢
    · exact ih
    · cases validateVisit v
      · exact ih
      · rfl

/-- the result of a translated function that threads no observer's state, as a result of `trav` over `Unit` -/
def liftRes (r : Heap × Option Src.Err) : Heap × Unit × Option Src.Err := (r.1, (), r.2)

/-- a per-node step without an observer's state, as a step of `trav` -/
def liftAct (step : Nat → Heap → Ptr → Option (Heap × Option Src.Err)) :
    Nat → Heap → Unit → Ptr → Option (Heap × Unit × Option Src.Err) :=
  fun fuel h _ p => (step fuel h p).map liftRes

theorem grows_of_validated {step : Nat → Heap → Ptr → Option (Heap × Option Src.Err)} {dg : defaultGrowerSimple}
    {fuel : Nat} {h : Heap} {cur : Ptr} {b : Src.branch} {lvl : Nat} {rd : Visit → Visit} {v : Visit}
    (hstep : step fuel h cur =
      some (setBr h cur b, if dg.enabledValidation then Node.validatePath (setBr h cur b) cur else none))
    (hl : (h cur).hierarchy = (lvl : Int)) (hva : visitAt (setBr h cur b) cur lvl = rd v)
    (hval : validateVisit (rd v) = validateVisit v) :
    ∃ b, liftAct step fuel h () cur = some (setBr h cur b, valObs dg v ()) ∧ visitAt (setBr h cur b) cur lvl = rd v := by
  refine ⟨b, ?_, hva⟩
  rw [liftAct, hstep, validatePath_visitAt _ _ lvl (by rw [setBr_hierarchy, hl]), hva, hval]
  rfl

/-- The body of the loop over the children in the translated `assemble` of the two growers: the translation leaves it as a
    lambda inside the function, and this definition is that lambda (equal by `rfl`: `assemble_isTrav`, `wassemble_isTrav`).
    It is `stepBody` of HeapFold.lean at `σ := Heap`, written out because those `rfl`s fail with the polymorphic definition
    in its place. -/
def plainBody (run : Heap → Ptr → Option (Heap × Option Src.Err)) :
    Ptr → Heap → Ctl Heap (Option (Heap × Option Src.Err)) :=
  fun child st_ =>
    match run st_ child with
    | none => Ctl.ret none
    | some r_ =>
      match r_ with
      | (h_, err) => if (Option.isSome err) then Ctl.ret (some (h_, err)) else Ctl.next h_

/-- how a loop over `plainBody` ends, as the end of a loop over `travBody` (`forRange_plain`) -/
def liftCtl : Ctl Heap (Option (Heap × Option Src.Err)) → Ctl (Heap × Unit) (Option (Heap × Unit × Option Src.Err))
  | .next s => .next (s, ())
  | .brk s => .brk (s, ())
  | .ret r => .ret (r.map liftRes)

/-- `loopEnd` without an observer's state -/
def plainEnd (h' : Heap) : Option Src.Err → Ctl Heap (Option (Heap × Option Src.Err))
  | none => .next h'
  | some e => .ret (some (h', some e))

theorem forRange_plain {run : Heap → Ptr → Option (Heap × Option Src.Err)}
    {run' : Heap → Unit → Ptr → Option (Heap × Unit × Option Src.Err)}
    (hrun : ∀ s c, run' s () c = (run s c).map liftRes) : ∀ (cs : List Ptr) (h : Heap),
    forRange cs (h, ()) (travBody run') = liftCtl (forRange cs h (plainBody run)) := by
  intro cs
  induction cs with
  | nil => intro h; rfl
  | cons c cs ih =>
    intro h
    rw [forRange, forRange, travBody, plainBody, hrun]
    rcases run h c with _ | ⟨h1, _ | e⟩
    · rfl
    · exact ih h1
    · rfl

/-- a translated traversal that runs `step` on the node and then itself on the children is `trav` -/
structure IsTrav (step run : Nat → Heap → Ptr → Option (Heap × Option Src.Err)) : Prop where
  zero : ∀ h p, run 0 h p = none
  succ : ∀ fuel h p, run (fuel + 1) h p =
    match step fuel h p with
    | none => none
    | some r_ =>
      match r_ with
      | (h_, err) =>
        if (Option.isSome err) then some (h_, err)
        else
          match forRange (h_ p).children h_ (plainBody (run fuel)) with
          | Ctl.ret r_ => r_
          | Ctl.brk st_ | Ctl.next st_ => some (st_, none)

theorem IsTrav.eq {step run : Nat → Heap → Ptr → Option (Heap × Option Src.Err)} (R : IsTrav step run) :
    ∀ (fuel : Nat) (h : Heap) (p : Ptr), trav (liftAct step) fuel h () p = (run fuel h p).map liftRes := by
  intro fuel
  induction fuel with
  | zero => intro h p; rw [R.zero]; rfl
  | succ fuel ih =>
    intro h p
    rw [trav, R.succ, liftAct]
    rcases step fuel h p with _ | ⟨h1, _ | e⟩
    · rfl
    · simp only [Option.map_some, liftRes, Option.isSome_none, Bool.false_eq_true, if_false]
      rw [forRange_plain ih]
      cases forRange (h1 p).children h1 (plainBody (run fuel)) <;> rfl
    · rfl

theorem eq_of_liftRes {o : Option (Heap × Option Src.Err)} {h' : Heap} {e : Option Src.Err}
    (ho : o.map liftRes = some (h', (), e)) : o = some (h', e) := by
  obtain _ | ⟨h1, e1⟩ := o
  · nomatch ho
  · simp only [Option.map_some, liftRes, Option.some.injEq, Prod.mk.injEq, true_and] at ho
    rw [ho.1, ho.2]

theorem IsTrav.run {step run : Nat → Heap → Ptr → Option (Heap × Option Src.Err)} (R : IsTrav step run)
    {dg : defaultGrowerSimple} {fuel : Nat} {h h' : Heap} {p : Ptr} {vs : List Visit}
    (hrun : trav (liftAct step) fuel h () p = some (h', runAll (valObs dg) vs ())) :
    run fuel h p = some (h', expErr dg vs) := by
  rw [R.eq, runAll_valObs] at hrun
  exact eq_of_liftRes hrun

theorem IsTrav.loop {step run : Nat → Heap → Ptr → Option (Heap × Option Src.Err)} (R : IsTrav step run)
    {dg : defaultGrowerSimple} {fuel : Nat} {h h' : Heap} {cs : List Ptr} {vs : List Visit}
    (hrun : forRange cs (h, ()) (travBody (trav (liftAct step) fuel)) = loopEnd h' (runAll (valObs dg) vs ())) :
    forRange cs h (plainBody (run fuel)) = plainEnd h' (expErr dg vs) := by
  rw [forRange_plain (R.eq fuel), runAll_valObs] at hrun
  revert hrun
  generalize forRange cs h (plainBody (run fuel)) = y
  generalize expErr dg vs = x
  intro hrun
  rcases x with _ | e
  · rcases y with s | s | r
    · cases hrun; rfl
    · cases hrun
    · cases hrun
  · rcases y with s | s | r
    · cases hrun
    · cases hrun
    · rw [eq_of_liftRes (Ctl.ret.inj hrun)]; rfl

end Gtree.SrcH
