import Gtree.Lemmas.MkPlan
import Gtree.Lemmas.Render
/-
  The model's `mkNodes` over the grown visits of a root (what simple_tree_mkdirer.go does, node by
  node, with the paths the grower computed) runs the operations `opsTree` of the root over element lists.
-/
namespace Gtree

/-- the element list of a node's parent below the target -/
def parentOf (ts : List Bytes) (r : Bytes) (anc : List Anc) : List Bytes := ts ++ r :: anc.reverse.map (·.1)

theorem parentOf_cons (ts : List Bytes) (r n : Bytes) (b : Bool) (anc : List Anc) :
    parentOf ts r ((n, b) :: anc) = parentOf ts r anc ++ [n] := by
  simp [parentOf]

theorem parent_elems {r : Bytes} (hr : GoodElem r) (anc : List Anc) (hanc : ∀ a ∈ anc, GoodElem a.1) :
    ∀ e ∈ r :: anc.reverse.map (·.1), Elem e :=
  List.forall_mem_cons.mpr ⟨hr.1, List.forall_mem_map.mpr fun a h => (hanc a (List.mem_reverse.mp h)).1⟩

section bridge
variable (f : Fmt) (exts : List Bytes) (ts : List Bytes) (r : Bytes)

theorem join_pathOf (hts : GoodList ts) (hr : GoodElem r) (anc : List Anc) (hanc : ∀ a ∈ anc, GoodElem a.1)
    (n : Bytes) (hn : GoodElem n) :
    filepathJoin [key ts, pathOf r n anc] = key (parentOf ts r anc ++ [n]) := by
  rw [pathOf_elems r n anc hr.1 hn.1 (fun a ha => (hanc a ha).1), ← List.cons_append, parentOf]
  exact filepathJoin_node ts _ n hts.1 (goodList_elems hts) (parent_elems hr anc hanc) hn.1

theorem join_parentOf (hts : GoodList ts) (hr : GoodElem r) (anc : List Anc) (hanc : ∀ a ∈ anc, GoodElem a.1)
    (n : Bytes) (hn : GoodElem n) :
    filepathJoin [key ts, trimSuffix (pathOf r n anc) n] = key (parentOf ts r anc) := by
  rw [pathOf_elems r n anc hr.1 hn.1 (fun a ha => (hanc a ha).1), ← List.cons_append, parentOf]
  exact filepathJoin_parent ts _ n hts.1 (goodList_elems hts) (parent_elems hr anc hanc)

theorem join_root (hts : GoodList ts) {n : Bytes} (hn : GoodElem n) : filepathJoin [key ts, n] = key (ts ++ [n]) := by
  simpa [joinSlash] using filepathJoin_node ts [] n hts.1 (goodList_elems hts) (by simp) hn.1

theorem opsOf_node (target : Bytes) (v : Visit) (Q : List Bytes) (sub : List T)
    (hc : v.hasChild = !sub.isEmpty) (hdir : filepathJoin [target, trimSuffix v.path v.name] = key Q)
    (hfull : filepathJoin [target, v.path] = key (Q ++ [v.name])) :
    opsOf target exts v ++ (opsKids exts (Q ++ [v.name]) sub).map EOp.toOp =
      (opsTree exts Q (T.mk v.name sub)).map EOp.toOp := by
  rw [opsOf, opsTree, hdir, hfull, hc]
  cases sub with
  | nil => by_cases hfile : isFileNode exts v.name false = true <;> simp [hfile, opsKids, EOp.toOp]
  | cons s ss => simp [isFileNode_inner]

theorem ops_growKids (hts : GoodList ts) (hr : GoodElem r) : ∀ (ks : List T) (anc : List Anc) (lvl : Nat),
    AllGoodL ks → (∀ a ∈ anc, GoodElem a.1) →
    (growKids f r anc lvl ks).flatMap (opsOf (key ts) exts) = (opsKids exts (parentOf ts r anc) ks).map EOp.toOp := by
  intro ks
  induction ks using forest_induct with
  | nil => intros; simp [growKids, opsKids]
  | cons n sub rest ihs ihr =>
    intro anc lvl hg hanc
    rw [AllGoodL, AllGoodT] at hg
    -- the visit of `n`, its subtree (under `n` as nearest ancestor), the siblings: the last two by induction
    rw [growKids_cons, List.cons_append, List.flatMap_cons, List.flatMap_append, ← List.append_assoc]
    rw [ihr anc lvl hg.2 hanc, ihs _ _ hg.1.2 (List.forall_mem_cons.mpr ⟨hg.1.1, hanc⟩), parentOf_cons]
    rw [opsKids, List.map_append]
    congr 1
    exact opsOf_node exts (key ts) ⟨n, _, lvl, pathOf r n anc, !sub.isEmpty⟩ (parentOf ts r anc) sub rfl
      (join_parentOf ts r hts hr anc hanc n hg.1.1) (join_pathOf ts r hts hr anc hanc n hg.1.1)

theorem ops_growRoot (hts : GoodList ts) (t : T) (ht : AllGoodT t) :
    (growRoot f t).flatMap (opsOf (key ts) exts) = (opsTree exts ts t).map EOp.toOp := by
  cases t with
  | mk n sub =>
    rw [AllGoodT] at ht
    have hk := ops_growKids f exts ts n hts ht.1 sub [] 2 ht.2 (by simp)
    rw [show parentOf ts n [] = ts ++ [n] by simp [parentOf]] at hk
    rw [growRoot, List.flatMap_cons, hk]
    refine opsOf_node exts (key ts) ⟨n, [], 1, n, !sub.isEmpty⟩ ts sub rfl ?_ (join_root ts hts ht.1)
    simp only [trimSuffix_self]
    exact filepathJoin_empty ts hts.1 (goodList_elems hts)

theorem ops_forest (hts : GoodList ts) (roots : List T) (hg : AllGoodL roots) :
    (roots.map (growRoot f)).flatten.flatMap (opsOf (key ts) exts) = (opsKids exts ts roots).map EOp.toOp := by
  induction roots with
  | nil => rfl
  | cons t rest ih =>
    rw [AllGoodL] at hg
    rw [List.map_cons, List.flatten_cons, List.flatMap_append, ops_growRoot f exts ts hts t hg.1,
      ih hg.2, opsKids, List.map_append]

theorem mkNodes_eq_runE (hts : GoodList ts) (t : T) (ht : AllGoodT t) (fs : FS) :
    mkNodes (key ts) exts fs (growRoot f t) = runE fs (opsTree exts ts t) := by
  rw [mkNodes_eq_runOps, ops_growRoot f exts ts hts t ht, runE]

theorem mkNodes_growRoot (hts : GoodList ts) (t : T) (ht : AllGoodT t) (fs : FS) :
    mkNodes (key ts) exts fs (growRoot f t) = mkKids exts ts fs [t] := by
  rw [mkNodes_eq_runE f exts ts hts t ht, ← mkTree_eq_runE]
  simp only [mkKids]
  cases mkTree exts ts fs t with
  | mk fs1 e => cases e <;> rfl

end bridge
end Gtree
