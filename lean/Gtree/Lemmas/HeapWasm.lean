import Gtree.Generated.Heap.Wasm
import Gtree.Lemmas.HeapGrower
import Gtree.Model.Wasm
/-
  The tinywasm twins (wasm_tree_grower.go, wasm_tree_spreader.go — compiled instead of the simple_tree_* files with
  `-tags tinywasm`), translated over the heap.  The twin's grower is the default grower followed, node by node, by
  baking the row into the branch (`assembleBranchFinally`: `name + "\n"` for a root, `branch + " " + name + "\n"`
  otherwise); its printer concatenates the branches in pre-order.  On a heap that holds a tree the twin's grower returns
  the default grower's verdict, and the twin's printer then the default variant's text.  `wassemble…` is the twin's
  counterpart of the lemma `assemble…` of HeapGrower.lean (for a root, `trav_root` is used directly); the twin's printer
  (`wspread_step`, `wspread_kids`, `wspread_node`) is not an instance of `foldNodes`: it accumulates a string and
  returns no error, so it has a step lemma and an induction along `ReprKids` of its own.
-/
namespace Gtree.SrcH
open Gtree Gtree.Go

/-- the tinywasm grower's fields as the default grower's -/
def toSimple (dg : defaultGrower) : defaultGrowerSimple :=
  { lastNodeFormat := dg.lastNodeFormat, intermedialNodeFormat := dg.intermedialNodeFormat,
    enabledValidation := dg.enabledValidation }

/-- baking: what the twin's `assembleBranchFinally` does in addition -/
def bake (h : Heap) (p : Ptr) : Heap :=
  if Node.isRoot h p then Node.setBranch h p [(h p).name, [0x0A]]
  else Node.setBranch h p [Node.branch h p, [0x20], (h p).name, [0x0A]]

theorem wasm_directly (h : Heap) (dg : defaultGrower) (p : Ptr) :
    defaultGrower.assembleBranchDirectly h dg p = defaultGrowerSimple.assembleBranchDirectly h (toSimple dg) p := rfl

theorem wasm_indirectly (h : Heap) (dg : defaultGrower) (p q : Ptr) :
    defaultGrower.assembleBranchIndirectly h dg p q = defaultGrowerSimple.assembleBranchIndirectly h (toSimple dg) p q := rfl

theorem wasm_finally (h : Heap) (dg : defaultGrower) (p q : Ptr) (hp : p ≠ 0) :
    defaultGrower.assembleBranchFinally h dg p q = bake (defaultGrowerSimple.assembleBranchFinally h (toSimple dg) p q) p := by
  have hp' : (p == Go.nilPtr) = false := beq_false_of_ne hp
  unfold defaultGrower.assembleBranchFinally defaultGrowerSimple.assembleBranchFinally bake
  rw [hp']
  cases (q != Go.nilPtr) <;> rfl

theorem bake_eq (h : Heap) (p : Ptr) :
    bake h p = setBr h p { (h p).brnch with value :=
      (if Node.isRoot h p then (h p).name ++ [0x0A] else (h p).brnch.value ++ [0x20] ++ (h p).name ++ [0x0A]) } := by
  unfold bake
  cases hr : Node.isRoot h p <;> simp [setBranch_eq, Node.branch]

theorem bake_setBr (h : Heap) (cur : Ptr) (b : Src.branch) :
    bake (setBr h cur b) cur = setBr h cur
      ⟨if (h cur).hierarchy = 1 then (h cur).name ++ [0x0A] else b.value ++ [0x20] ++ (h cur).name ++ [0x0A], b.path⟩ := by
  rw [bake_eq]
  simp [Node.isRoot, Src.rootHierarchyNum]

theorem validatePath_bake (h : Heap) (p : Ptr) : Node.validatePath (bake h p) p = Node.validatePath h p := by
  have hp : Node.path (bake h p) p = Node.path h p := by
    rw [bake_eq, Node.path, Node.path, Node.isRoot, Node.isRoot, setBr_hierarchy, setBr_name, setBr_brnch_self]
  rw [Node.validatePath, Node.validatePath, hp, bake_eq, setBr_name]

theorem wassembleBranch_eq (fuel : Nat) (h : Heap) (dg : defaultGrower) (cur : Ptr) :
    defaultGrower.assembleBranch fuel h dg cur =
      assembleBranchWith (fun h q => defaultGrower.assembleBranchFinally h dg cur q) (toSimple dg) fuel h cur := rfl

theorem wasm_assembleBranch (fuel : Nat) (h : Heap) (dg : defaultGrower) (p : Ptr) (hp : p ≠ 0) :
    defaultGrower.assembleBranch fuel h dg p =
      (defaultGrowerSimple.assembleBranch fuel h (toSimple dg) p).map (fun r => (bake r.1 p, r.2)) := by
  rw [wassembleBranch_eq, assembleBranch_eq, assembleBranchWith, assembleBranchWith]
  simp only [wasm_finally _ _ _ _ hp, validatePath_bake]
  rcases (_ != Go.nilPtr : Bool) with _ | _
  · cases (toSimple dg).enabledValidation <;> rfl
  · rcases hl : Go.forLoop fuel _ loopCond (loopBody (toSimple dg) p) with _ | s | s | r
    · rfl
    · cases (toSimple dg).enabledValidation <;> rfl
    · cases (toSimple dg).enabledValidation <;> rfl
    · exact absurd hl (forLoop_no_ret (fun _ => ⟨_, rfl⟩) fuel _ r)

/-- a visit of the default variant as the twin's grower leaves it: the row baked into the branch -/
def bakeV (v : Visit) : Visit := { v with branch := wasmBranch v }

theorem validate_bakeV : ∀ (vs : List Visit), validateVisits (vs.map bakeV) = validateVisits vs
  | [] => rfl
  | v :: vs => by
    simp only [List.map_cons, validateVisits, validate_bakeV vs]
    rfl

theorem wassembleBranch_node (dg : defaultGrower) (h : Heap) (cur root : Ptr) (l : Bool) (anc : List Anc)
    (fuel : Nat) (hc0 : cur ≠ 0) (hcl : (h cur).hierarchy ≠ 1) (hup : Up h root (h cur).parent anc)
    (hl : Node.isLastOfHierarchy h cur = l) (hf : anc.length ≤ fuel) :
    defaultGrower.assembleBranch fuel h dg cur =
      some (setBr h cur ⟨branchOf (fmtOf (toSimple dg)) l anc ++ [0x20] ++ (h cur).name ++ [0x0A],
                        pathOf (h root).name (h cur).name anc⟩,
        if (toSimple dg).enabledValidation then
          Node.validatePath (setBr h cur ⟨branchOf (fmtOf (toSimple dg)) l anc ++ [0x20] ++ (h cur).name ++ [0x0A],
                        pathOf (h root).name (h cur).name anc⟩) cur
        else none) := by
  rw [wasm_assembleBranch fuel h dg cur hc0, assembleBranch_node (toSimple dg) h cur root l anc fuel hc0 hcl hup hl hf,
    Option.map_some, ← validatePath_bake, bake_setBr, if_neg hcl]

theorem wassemble_isTrav (dg : defaultGrower) :
    IsTrav (fun fuel h p => defaultGrower.assembleBranch fuel h dg p)
      (fun fuel h p => defaultGrower.assemble fuel h dg p) :=
  ⟨fun _ _ => rfl, fun _ _ _ => rfl⟩

theorem wassembleBranch_grows (dg : defaultGrower) :
    Grows (fmtOf (toSimple dg)) bakeV (valObs (toSimple dg))
      (liftAct fun fuel h p => defaultGrower.assembleBranch fuel h dg p) where
  node h a cur root lvl anc fuel v hc0 hl hlvl hup hf hv := by
    have hcl : (h cur).hierarchy ≠ 1 := ne_one_of_level hl hlvl
    have hl1 : (lvl == 1) = false := beq_false_of_ne (Nat.ne_of_gt hlvl)
    exact grows_of_validated (wassembleBranch_node dg h cur root _ anc fuel hc0 hcl hup rfl hf) hl
      (by rw [visitAt_setBr, if_neg hcl, hv]; simp [bakeV, wasmBranch, hl1, sp, lf]) rfl
  root h a cur fuel v hc0 hl hpar hv :=
    grows_of_validated (b := ⟨(h cur).name ++ [0x0A], []⟩)
      (by rw [wasm_assembleBranch fuel h dg cur hc0, assembleBranch_root (toSimple dg) h cur fuel hc0 hl hpar,
        Option.map_some, ← validatePath_bake, bake_setBr, if_pos hl]) hl
      (by rw [visitAt_setBr, if_pos hl, hv]; simp [bakeV, wasmBranch, lf]) rfl

theorem wassemble_node (dg : defaultGrower) (root : Ptr) (rn : Bytes) :
    ∀ (t : T) (h : Heap) (p par : Ptr) (lvl : Nat) (l : Bool) (anc : List Anc) (fuel : Nat),
      2 ≤ lvl → (h root).name = rn → Repr h t p par lvl → Up h root par anc → Node.isLastOfHierarchy h p = l →
      (ptrs h t p).Nodup → 2 * t.size + anc.length ≤ fuel →
      ∃ h', defaultGrower.assemble fuel h dg p = some (h', expErr (toSimple dg) (growNode (fmtOf (toSimple dg)) rn anc lvl l t)) ∧
        (expErr (toSimple dg) (growNode (fmtOf (toSimple dg)) rn anc lvl l t) = none →
          SameShape h h' ∧ (∀ q, q ∉ ptrs h t p → h' q = h q) ∧
          readNode h' t p lvl = (growNode (fmtOf (toSimple dg)) rn anc lvl l t).map bakeV) := by
  intro t h p par lvl l anc fuel hlvl hrn hr hup hl hnd hf
  obtain ⟨h', hrun, hrest⟩ := trav_node (wassembleBranch_grows dg) (trav_kids (wassembleBranch_grows dg) root rn _) ()
    hlvl hrn hr hup hl hnd hf
  exact ⟨h', (wassemble_isTrav dg).run hrun, by simpa only [runAll_valObs] using hrest⟩

/-- the body of the loop of the twin's `spreadBranch` over the children -/
def wspreadBody (h : Heap) (fuel : Nat) : Ptr → Bytes → Go.Ctl Bytes (Option Bytes) :=
  fun child st_ =>
    match (defaultSpreader.spreadBranch fuel h (defaultSpreader.mk) child) with
    | none => Go.Ctl.ret none
    | some r_ => Go.Ctl.next (st_ + r_)

theorem wspread_unfold (fuel : Nat) (h : Heap) (ds : defaultSpreader) (cur : Ptr) :
    defaultSpreader.spreadBranch (fuel + 1) h ds cur =
      (match Go.forRange (h cur).children (Node.branch h cur) (wspreadBody h fuel) with
       | Go.Ctl.ret r_ => r_
       | Go.Ctl.brk st_ | Go.Ctl.next st_ => some st_) := by
  rfl

theorem wspread_step (h : Heap) (n : Bytes) (ks : List T) (ds : defaultSpreader) (p : Ptr) (lvl fuel : Nat)
    (hk : Nonempty (Go.forRange (h p).children (Node.branch h p) (wspreadBody h fuel) =
      Go.Ctl.next (Node.branch h p ++ ((readKids h ks (h p).children (lvl + 1)).map (·.branch)).flatten))) :
    defaultSpreader.spreadBranch (fuel + 1) h ds p = some ((readNode h (.mk n ks) p lvl).map (·.branch)).flatten := by
  obtain ⟨hrun⟩ := hk
  rw [wspread_unfold, readNode, hrun]
  rfl

theorem wspread_kids (h : Heap) : ∀ (ts : List T) (acc : Bytes) (cs : List Ptr) (par : Ptr) (lvl fuel : Nat),
    ReprKids h ts cs par lvl → sizeList ts ≤ fuel →
    Nonempty (Go.forRange cs acc (wspreadBody h fuel) =
      Go.Ctl.next (acc ++ ((readKids h ts cs lvl).map (·.branch)).flatten)) := by
  intro ts acc cs par lvl fuel hr
  induction ts, cs, par, lvl, hr using reprKids_induct generalizing acc fuel with
  | nil => exact fun _ => ⟨by simp [Go.forRange, readKids]⟩
  | cons n ks ts c cs par lvl _ _ _ _ ihk ihs =>
    intro hf
    obtain ⟨fuel, rfl, hfk, hfs⟩ := fuel_cons hf
    have h1 := wspread_step h n ks .mk c lvl fuel (ihk (Node.branch h c) fuel hfk)
    obtain ⟨h2⟩ := ihs (acc + ((readNode h (.mk n ks) c lvl).map (·.branch)).flatten) (fuel + 1) hfs
    refine ⟨?_⟩
    rw [Go.forRange, readKids]
    simp only [wspreadBody, h1]
    rw [h2, add_bytes, List.map_append, List.flatten_append, List.append_assoc]

theorem wspread_node (h : Heap) : ∀ (t : T) (ds : defaultSpreader) (p par : Ptr) (lvl fuel : Nat),
    Repr h t p par lvl → t.size ≤ fuel →
    defaultSpreader.spreadBranch fuel h ds p = some ((readNode h t p lvl).map (·.branch)).flatten := by
  intro ⟨n, ks⟩ ds p par lvl fuel hr hf
  obtain ⟨fuel, rfl, hfk⟩ := fuel_node hf
  exact wspread_step h n ks ds p lvl fuel (wspread_kids h ks (Node.branch h p) _ p (lvl + 1) fuel hr.kids hfk)

theorem wasm_grow_then_spread (dg : defaultGrower) (ds : defaultSpreader) (t : T) (h : Heap) (r : Ptr) (fuel : Nat)
    (hr : Repr h t r 0 1) (hnd : (ptrs h t r).Nodup) (hf : 2 * t.size + 1 ≤ fuel) :
    ∃ h', defaultGrower.assemble fuel h dg r = some (h', expErr (toSimple dg) (growRoot (fmtOf (toSimple dg)) t)) ∧
      (expErr (toSimple dg) (growRoot (fmtOf (toSimple dg)) t) = none →
        defaultSpreader.spreadBranch fuel h' ds r = some (wasmSpreadBranch (fmtOf (toSimple dg)) t)) := by
  obtain ⟨h', hrun, hrest⟩ := trav_root (wassembleBranch_grows dg) () hr hnd hf
  rw [runAll_valObs] at hrest
  refine ⟨h', (wassemble_isTrav dg).run hrun, fun he => ?_⟩
  obtain ⟨hs, _, hrd⟩ := hrest he
  rw [wspread_node h' t ds r 0 1 fuel (Repr_shape hs _ _ _ _ hr) (fuel_of_fuel2 hf), hrd]
  simp [wasmSpreadBranch, List.map_map, Function.comp_def, bakeV]

end Gtree.SrcH
