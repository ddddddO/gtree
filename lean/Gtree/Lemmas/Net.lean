import Gtree.Model.Net
/-
  The K-stage pipeline model (`Model/Net.lean`): the invariant `Inv`, which every step keeps (`inv_step`) and under which a
  state where no goroutine of the library can move has returned with every stage wound down (`no_stuck`); the ghost invariant
  `GInv` about what a returned call reports (`ginv_step`); the weight `localM` of a stage in the termination measure.
-/
namespace Gtree.Net

/-- per-stage invariants (`ec`: the errgroup's context is cancelled) -/
structure StgInv (ec : Bool) (a : Stg) : Prop where
  workers : a.idle + a.send + a.err + a.done ≥ 1
  closedQuiet : a.outClosed = true → a.quiet
  waiterGone : ec = false → a.waiter = false → a.outClosed = true ∧ a.errbuf = false

/-- a worker that has exited without leaving an error in the buffer saw its input closed
    (`inc`: the input of the head of the list has been closed) -/
def chainInv (ec : Bool) : Bool → List Stg → Prop
  | _, [] => True
  | inc, a :: rest => (ec = false → a.errbuf = false → a.done > 0 → inc = true) ∧ chainInv ec a.outClosed rest

/-- the last stage never holds an item for a next stage -/
def lastOk (l : List Stg) : Prop := ∀ a, l.getLast? = some a → a.send = 0

/-- what holds in every reachable state (`inv_reach`): the workers' context is cancelled only together with the errgroup's
    (`ctx`), a call that has returned has cancelled it (`ret`: the deferred `cancel()`), and the three invariants above -/
structure Inv (n : Net) : Prop where
  ctx : n.cancelled = true → n.ecancel = true
  ret : n.returned = true → n.cancelled = true
  stg : ∀ a ∈ n.stages, StgInv n.ecancel a
  chain : chainInv n.ecancel n.srcClosed n.stages
  last : lastOk n.stages

/-- whether the input of the stage that follows `pre` is closed (`inc`: the source's flag): what `chainInv` has handed on
    when it has gone through `pre` (`chainInv_append`) -/
def lastOut : Bool → List Stg → Bool
  | inc, [] => inc
  | _, p :: ps => lastOut p.outClosed ps

theorem lastOut_snoc (inc : Bool) (pre : List Stg) (p : Stg) : lastOut inc (pre ++ [p]) = p.outClosed := by
  induction pre generalizing inc with
  | nil => rfl
  | cons q qs ih => simpa [lastOut] using ih q.outClosed

theorem chainInv_append (ec : Bool) : ∀ (pre l : List Stg) (inc : Bool),
    chainInv ec inc (pre ++ l) ↔ chainInv ec inc pre ∧ chainInv ec (lastOut inc pre) l
  | [], l, inc => by simp [chainInv, lastOut]
  | p :: pre, l, inc => by
    simp only [List.cons_append, chainInv, lastOut, chainInv_append ec pre l p.outClosed, and_assoc]

theorem chainInv_true : ∀ (l : List Stg) (inc : Bool), chainInv true inc l
  | [], _ => trivial
  | a :: rest, inc => ⟨fun h => by simp at h, chainInv_true rest a.outClosed⟩

theorem chainInv_inc_true {ec : Bool} : ∀ {l : List Stg} {inc : Bool}, chainInv ec inc l → chainInv ec true l
  | [], _, _ => trivial
  | _ :: _, _, h => ⟨fun _ _ _ => rfl, h.2⟩

theorem lastOk_append (pre : List Stg) (a : Stg) (post : List Stg) : lastOk (pre ++ a :: post) ↔ lastOk (a :: post) := by
  rw [lastOk, lastOk, List.getLast?_append, List.getLast?_cons, Option.some_or]

theorem stgInv_true {ec : Bool} {a : Stg} (h : StgInv ec a) : StgInv true a :=
  ⟨h.workers, h.closedQuiet, fun h' => by simp at h'⟩

theorem live_open {ec : Bool} {a : Stg} (h : StgInv ec a) (hl : a.idle > 0 ∨ a.send > 0 ∨ a.err > 0) : a.outClosed = false := by
  refine eq_false_of_ne_true fun ho => ?_
  obtain ⟨h1, h2, h3⟩ := h.closedQuiet ho
  simp [h1, h2, h3] at hl

theorem live_waiter {ec : Bool} {a : Stg} (h : StgInv ec a) (hec : ec = false) (hl : a.idle > 0 ∨ a.send > 0 ∨ a.err > 0) :
    a.waiter = true :=
  eq_true_of_ne_false fun hw => Bool.false_ne_true ((live_open h hl).symm.trans (h.waiterGone hec hw).1)

theorem StgInv.done_pos {ec : Bool} {a : Stg} (h : StgInv ec a) (hi : a.idle = 0) (hs : a.send = 0) (he : a.err = 0) :
    a.done > 0 := by
  have hw := h.workers
  rwa [hi, hs, he, Nat.zero_add] at hw

/-- a worker of a live stage moves to another count (`hl`: the count it leaves; `hw`: the count it joins is positive, being
    a successor) -/
theorem stgInv_moved {ec : Bool} {a : Stg} (h : StgInv ec a) (hl : a.idle > 0 ∨ a.send > 0 ∨ a.err > 0) {i s e d : Nat}
    {f : Bool} (hw : 0 < i ∨ 0 < s ∨ 0 < e ∨ 0 < d := by simp only [Nat.zero_lt_succ, or_true, true_or]) :
    StgInv ec { a with idle := i, send := s, err := e, done := d, failed := f } := by
  have hw' : 0 < i + s + e + d := by simpa only [Nat.add_pos_iff_pos_or_pos, or_assoc] using hw
  refine ⟨hw', fun hc => ?_, fun hec hwf => ?_⟩
  · simp [live_open h hl] at hc
  · simp [live_waiter h hec hl] at hwf

theorem forall_mem_replace {P Q : Stg → Prop} {l l' pre post : List Stg} {a a' : Stg} (hs : l = pre ++ a :: post)
    (hl' : l' = pre ++ a' :: post) (h : ∀ x ∈ l, P x) (hpq : ∀ x, P x → Q x) (ha : P a → Q a') : ∀ x ∈ l', Q x := by
  subst hs hl'
  simp only [List.mem_append, List.mem_cons] at h ⊢
  rintro x (hx | rfl | hx)
  · exact hpq x (h x (.inl hx))
  · exact ha (h a (.inr (.inl rfl)))
  · exact hpq x (h x (.inr (.inr hx)))

/-- the `chainInv` conjunct of the stage `a`: a worker of `a` that exited without leaving an error saw `a`'s input closed -/
theorem Inv.chain_at {n : Net} (h : Inv n) {pre post : List Stg} {a : Stg} (hs : n.stages = pre ++ a :: post) :
    n.ecancel = false → a.errbuf = false → a.done > 0 → lastOut n.srcClosed pre = true := by
  have hchain := h.chain
  rw [hs, chainInv_append] at hchain
  exact hchain.2.1

theorem Inv.last_at {n : Net} (h : Inv n) {pre post : List Stg} {a : Stg} (hs : n.stages = pre ++ a :: post) :
    lastOk (a :: post) := by
  have hl := h.last
  rwa [hs, lastOk_append] at hl

/-- a step that rewrites one stage to `a'` and leaves the flags alone.  `input` is the stage's `chainInv` conjunct,
    `output` the next stage's, `last` is `lastOk`; their defaults do where the step does not touch `errbuf` and `done`,
    `outClosed`, `send`. -/
theorem inv_replace {n : Net} (h : Inv n) (t : Nat) {l' pre post : List Stg} {a a' : Stg} (hs : n.stages = pre ++ a :: post)
    (hl' : l' = pre ++ a' :: post) (stage : StgInv n.ecancel a → StgInv n.ecancel a')
    (input : (n.ecancel = false → a.errbuf = false → a.done > 0 → lastOut n.srcClosed pre = true) →
      n.ecancel = false → a'.errbuf = false → a'.done > 0 → lastOut n.srcClosed pre = true := by exact id)
    (output : a'.outClosed = a.outClosed ∨ a'.outClosed = true := by exact .inl rfl)
    (last : post.isEmpty = true → a'.send ≤ a.send := by exact fun _ => Nat.le_refl _) :
    Inv { n with todo := t, stages := l' } := by
  have hchain := h.chain
  have hl := h.last_at hs
  rw [hs, chainInv_append] at hchain
  obtain ⟨hpre, hold, htail⟩ := hchain
  subst hl'
  refine ⟨h.ctx, h.ret, forall_mem_replace hs rfl h.stg (fun _ hx => hx) stage, ?_, ?_⟩
  · refine (chainInv_append ..).mpr ⟨hpre, input hold, ?_⟩
    rcases output with ho | ho
    · rw [ho]; exact htail
    · rw [ho]; exact chainInv_inc_true htail
  · rw [lastOk_append]
    cases post with
    | nil => rintro _ ⟨⟩; exact Nat.le_zero.mp (Nat.le_trans (last rfl) (Nat.le_of_eq (hl a rfl)))
    | cons b rest => exact hl

theorem inv_ecancel {n' : Net} (he : n'.ecancel = true) (hr : n'.returned = true → n'.cancelled = true)
    (hstg : ∀ x ∈ n'.stages, StgInv true x) (hlast : lastOk n'.stages) : Inv n' :=
  ⟨fun _ => he, hr, by rw [he]; exact hstg, by rw [he]; exact chainInv_true _ _, hlast⟩

theorem chainInv_fresh (ec : Bool) : ∀ (ws : List Nat) (inc : Bool), chainInv ec inc (ws.map freshStg)
  | [], _ => trivial
  | w :: ws, inc => by
    simp only [List.map_cons, chainInv]
    exact ⟨by simp [freshStg], chainInv_fresh ec ws _⟩

theorem inv_init (todo : Nat) (workers : List Nat) (hw : ∀ w ∈ workers, w ≥ 1) : Inv (init todo workers) := by
  refine ⟨nofun, nofun, ?_, ?_, ?_⟩
  · intro a ha
    obtain ⟨w, hwm, rfl⟩ := List.mem_map.mp ha
    exact ⟨hw w hwm, nofun, fun _ => nofun⟩
  · exact chainInv_fresh _ _ _
  · intro a ha
    obtain ⟨w, _, rfl⟩ := List.mem_map.mp (List.mem_of_getLast? ha)
    rfl

/-- the four premises of `inv_replace` for a worker that takes an item; `p` stands for `lastOut n.srcClosed pre = true` -/
theorem outcome_inv {ec last : Bool} {b b' : Stg} (ho : Outcome last b b') {p : Prop} :
    (StgInv ec b → StgInv ec b') ∧
    ((ec = false → b.errbuf = false → b.done > 0 → p) → ec = false → b'.errbuf = false → b'.done > 0 → p) ∧
    b'.outClosed = b.outClosed ∧ (last = true → b'.send ≤ b.send) := by
  cases ho with
  | ok hi hl => exact ⟨fun h => stgInv_moved h (.inl hi), id, rfl, fun hl' => by simp [hl] at hl'⟩
  | okLast hi hl => exact ⟨id, id, rfl, fun _ => Nat.le_refl _⟩
  | fail hi => exact ⟨fun h => stgInv_moved h (.inl hi), id, rfl, fun _ => Nat.le_refl _⟩

theorem inv_step {n n' : Net} (h : Inv n) (hstep : Step n n') : Inv n' := by
  -- a worker that exits under cancellation: the conditional invariants (`ecancel = false → …`) do not apply
  have hcan : n.cancelled = true → n.ecancel = false → False := fun hc he => by simp [h.ctx hc] at he
  rcases hstep with hs | hs
  · cases hs with
    | feed a a' post hst ht hc ho =>
      obtain ⟨h1, h2, h3, h4⟩ := outcome_inv ho
      exact inv_replace h _ (pre := []) hst rfl h1 h2 (.inl h3) h4
    | srcDone hc ht => exact ⟨h.ctx, h.ret, h.stg, chainInv_inc_true h.chain, h.last⟩
    | handover pre a b b' post hst hsend ho =>
      obtain ⟨h1, h2, h3, h4⟩ := outcome_inv ho
      -- first the downstream stage, then the upstream one
      have hb := inv_replace h n.todo (hst.trans (List.append_cons ..)) rfl h1 h2 (.inl h3) h4
      exact inv_replace hb _ (List.append_cons ..).symm rfl
        (fun ha => stgInv_moved ha (.inr (.inl hsend)))
        (last := fun hp => by simp at hp)
    | sendGiveUp pre a post hst hsend hc =>
      exact inv_replace h _ hst rfl
        (fun ha => stgInv_moved ha (.inr (.inl hsend)))
        (input := fun _ he => (hcan hc he).elim) (last := fun _ => Nat.sub_le _ _)
    | idleExitFirst a post hst hi hc =>
      exact inv_replace h _ (pre := []) hst rfl
        (fun ha => stgInv_moved ha (.inl hi))
        (input := fun _ he _ _ => hc.elim id (fun hc => (hcan hc he).elim))
    | idleExit pre p a post hst hi hc =>
      exact inv_replace h _ (hst.trans (List.append_cons ..)) (List.append_cons ..)
        (fun ha => stgInv_moved ha (.inl hi))
        (input := fun _ he _ _ => (lastOut_snoc ..).trans (hc.elim id (fun hc => (hcan hc he).elim)))
    | closeOut pre a post hst hq hc =>
      exact inv_replace h _ hst rfl
        (fun ha => ⟨ha.workers, fun _ => hq, fun he hw => by have := (ha.waiterGone he hw).1; simp [hc] at this⟩)
        (output := .inr rfl)
    | errSend pre a post hst he hb =>
      exact inv_replace h _ hst rfl
        (fun ha => ⟨Nat.succ_pos _, fun hc => by simp [live_open ha (.inr (.inr he))] at hc,
          fun hec hw => by simp [live_waiter ha hec (.inr (.inr he))] at hw⟩)
        (input := fun _ _ hbf => by simp at hbf)
    | errGiveUp pre a post hst he hc =>
      exact inv_replace h _ hst rfl
        (fun ha => stgInv_moved ha (.inr (.inr he)))
        (input := fun _ he => (hcan hc he).elim)
    | recvErr pre a post hst hb hw =>
      refine inv_ecancel rfl h.ret ?_ ?_
      · exact forall_mem_replace hst rfl h.stg (fun _ => stgInv_true) (fun hx => ⟨hx.workers, hx.closedQuiet, nofun⟩)
      · have hl := h.last_at hst
        exact (lastOk_append ..).mpr (by cases post with | nil => rintro _ ⟨⟩; exact hl a rfl | cons => exact hl)
    | recvClosed pre a post hst hw hq hb =>
      exact inv_replace h _ hst rfl
        (fun ha => ⟨ha.workers, ha.closedQuiet, fun _ _ => ⟨hq, hb⟩⟩)
    | waiterCancel pre a post hst hw hc =>
      exact inv_replace h _ hst rfl
        (fun ha => ⟨ha.workers, ha.closedQuiet, fun he => by simp [hc] at he⟩)
    | ret hr hw =>
      exact inv_ecancel rfl (fun _ => rfl) (fun x hx => stgInv_true (h.stg x hx)) h.last
  · cases hs with
    | cancel hc =>
      exact inv_ecancel rfl (fun _ => rfl) (fun x hx => stgInv_true (h.stg x hx)) h.last

theorem inv_reach (n0 n : Net) (h0 : Inv n0) (hr : Reach n0 n) : Inv n := by
  induction hr with
  | refl => exact h0
  | step _ hs ih => exact inv_step ih hs

theorem idle_can_exit (n : Net) (pre post : List Stg) (a : Stg) (hs : n.stages = pre ++ a :: post) (hi : a.idle > 0)
    (hc : lastOut n.srcClosed pre = true ∨ n.cancelled = true) : ∃ n', SysStep n n' := by
  rcases List.eq_nil_or_concat pre with rfl | ⟨pre', p, rfl⟩
  · exact ⟨_, .idleExitFirst n a post hs hi hc⟩
  · rw [List.concat_eq_append] at hs hc
    rw [lastOut_snoc] at hc
    exact ⟨_, .idleExit n pre' p a post (hs.trans (List.append_cons ..).symm) hi hc⟩

theorem exists_waiter {l : List Stg} (h : ¬ ∀ a ∈ l, a.waiter = false) : ∃ a ∈ l, a.waiter = true :=
  Classical.byContradiction fun hne => h fun a ha => eq_false_of_ne_true fun hw => hne ⟨a, ha, hw⟩

/-- stuck, the errgroup's context not cancelled, no error waiting or buffered: no stage holds an item, since a blocked
    sender implies one in the next stage (whose workers have all exited otherwise, and closed the sender's output), and
    the last stage never holds one.  By induction on the stages that follow. -/
theorem stuck_send_zero {n : Net} (h : Inv n) (hstuck : ∀ n', ¬ SysStep n n') (hec : n.ecancel = false)
    (hbuf : ∀ a ∈ n.stages, a.errbuf = false) (herr : ∀ a ∈ n.stages, a.err = 0) : ∀ a ∈ n.stages, a.send = 0 := by
  intro a ha
  obtain ⟨pre, post, hs⟩ := List.append_of_mem ha
  clear ha
  induction post generalizing pre a with
  | nil => exact h.last_at hs a rfl
  | cons b post' ih =>
    refine Nat.eq_zero_of_not_pos fun hsd => ?_
    have hs2 := hs.trans (List.append_cons ..)
    have hbm : b ∈ n.stages := by simp [hs]
    have hbi : b.idle = 0 := Nat.eq_zero_of_not_pos fun hi => hstuck _ (.handover n pre a b _ post' hs hsd (.fail b hi))
    have hin := h.chain_at hs2 hec (hbuf b hbm) ((h.stg b hbm).done_pos hbi (ih b _ hs2) (herr b hbm))
    rw [lastOut_snoc] at hin
    exact Nat.ne_of_gt hsd ((h.stg a (by simp [hs])).closedQuiet hin).2.1

/-- stuck, no item held and no error waiting: a stage whose input is closed has wound down and closed its output, which is
    the input of the next; so every stage from the first whose input is closed on is closed -/
theorem stuck_closed_from {n : Net} (hstuck : ∀ n', ¬ SysStep n n') (hsend : ∀ a ∈ n.stages, a.send = 0)
    (herr : ∀ a ∈ n.stages, a.err = 0) :
    ∀ (l pre : List Stg), n.stages = pre ++ l → lastOut n.srcClosed pre = true → ∀ a ∈ l, a.outClosed = true := by
  intro l
  induction l with
  | nil => exact fun _ _ _ _ ha => nomatch ha
  | cons x rest ih =>
    intro pre hs hin a ha
    have hxm : x ∈ n.stages := by simp [hs]
    have hxi : x.idle = 0 := Nat.eq_zero_of_not_pos fun hi =>
      (idle_can_exit n pre rest x hs hi (Or.inl hin)).elim hstuck
    have hxo : x.outClosed = true := eq_true_of_ne_false fun ho =>
      hstuck _ (.closeOut n pre x rest hs ⟨hxi, hsend x hxm, herr x hxm⟩ ho)
    rcases List.mem_cons.mp ha with rfl | ha
    · exact hxo
    · exact ih (pre ++ [x]) (hs.trans (List.append_cons ..)) ((lastOut_snoc ..).trans hxo) a ha

theorem no_stuck (n : Net) (h : Inv n) (hstuck : ∀ n', ¬ SysStep n n') :
    n.returned = true ∧ ∀ a ∈ n.stages, a.quiet := by
  have hret : n.returned = true := by
    refine eq_true_of_ne_false fun hr => ?_
    -- some waiter `w` is still waiting; it will turn out that it can move
    obtain ⟨w, hwm, hww⟩ := exists_waiter fun hall => hstuck _ (.ret n hr hall)
    obtain ⟨wpre, wpost, hws⟩ := List.append_of_mem hwm
    have hec : n.ecancel = false := eq_false_of_ne_true fun he => hstuck _ (.waiterCancel n wpre w wpost hws hww he)
    have hbuf : ∀ a ∈ n.stages, a.errbuf = false := by
      intro a ha
      obtain ⟨pre, post, hs⟩ := List.append_of_mem ha
      refine eq_false_of_ne_true fun hb => hstuck _ (.recvErr n pre a post hs hb (eq_true_of_ne_false fun hwa => ?_))
      have := ((h.stg a ha).waiterGone hec hwa).2
      simp [hb] at this
    have herr : ∀ a ∈ n.stages, a.err = 0 := by
      intro a ha
      obtain ⟨pre, post, hs⟩ := List.append_of_mem ha
      exact Nat.eq_zero_of_not_pos fun he => hstuck _ (.errSend n pre a post hs he (hbuf a ha))
    have hsend := stuck_send_zero h hstuck hec hbuf herr
    have hsrc : n.srcClosed = true := by
      refine eq_true_of_ne_false fun hsc => ?_
      by_cases ht : n.todo = 0
      · exact hstuck _ (.srcDone n hsc (Or.inl ht))
      · cases hst : n.stages with
        | nil => simp [hst] at hwm
        | cons a post =>
          have ham : a ∈ n.stages := by simp [hst]
          have hai : a.idle = 0 :=
            Nat.eq_zero_of_not_pos fun hi => hstuck _ (.feed n a _ post hst (Nat.pos_of_ne_zero ht) hsc (.fail a hi))
          have := h.chain_at (pre := []) hst hec (hbuf a ham) ((h.stg a ham).done_pos hai (hsend a ham) (herr a ham))
          simp [lastOut, hsc] at this
    exact hstuck _ (.recvClosed n wpre w wpost hws hww
      (stuck_closed_from hstuck hsend herr n.stages [] rfl hsrc w hwm) (hbuf w hwm))
  refine ⟨hret, fun a ha => ?_⟩
  have hc := h.ret hret
  obtain ⟨pre, post, hs⟩ := List.append_of_mem ha
  exact ⟨Nat.eq_zero_of_not_pos fun hi => (idle_can_exit n pre post a hs hi (Or.inr hc)).elim hstuck,
    Nat.eq_zero_of_not_pos fun hsd => hstuck _ (.sendGiveUp n pre a post hs hsd hc),
    Nat.eq_zero_of_not_pos fun he => hstuck _ (.errGiveUp n pre a post hs he hc)⟩

/-- ghost invariants about the result -/
structure GInv (n : Net) : Prop where
  /-- the error of a stage in which an item failed is on its way to the waiter, has been received, or was given up
      under cancellation -/
  failure : ∀ a ∈ n.stages, a.failed = true → a.err > 0 ∨ a.errbuf = true ∨ n.sawErr = true ∨ n.cancelled = true
  /-- the errgroup's context is cancelled for a reason the result shows, or by the deferred `cancel()` -/
  cause : n.ecancel = true → n.sawErr = true ∨ n.callerCancelled = true ∨ n.returned = true
  /-- the statement of `C14_chain_nil_is_clean`: the step `ret` establishes it from the other two, no later step touches it -/
  nilClean : n.returned = true → n.resultIsNil = true → ∀ a ∈ n.stages, a.quiet ∧ a.failed = false

/-- `inv_replace` for the ghost invariants; `quiet` has nothing to show when `a` had a live worker (the first alternative) -/
theorem ginv_replace {n : Net} (g : GInv n) (t : Nat) {l' pre post : List Stg} {a a' : Stg} (hs : n.stages = pre ++ a :: post)
    (hl' : l' = pre ++ a' :: post)
    (quiet : (a.idle > 0 ∨ a.send > 0 ∨ a.err > 0) ∨ (a.quiet ∧ a.failed = false → a'.quiet ∧ a'.failed = false))
    (failure : (a.failed = true → a.err > 0 ∨ a.errbuf = true ∨ n.sawErr = true ∨ n.cancelled = true) →
      a'.failed = true → a'.err > 0 ∨ a'.errbuf = true ∨ n.sawErr = true ∨ n.cancelled = true := by exact id) :
    GInv { n with todo := t, stages := l' } := by
  have hq : a.quiet ∧ a.failed = false → a'.quiet ∧ a'.failed = false := by
    rcases quiet with hl | hq
    · rintro ⟨⟨h1, h2, h3⟩, -⟩
      simp [h1, h2, h3] at hl
    · exact hq
  exact ⟨forall_mem_replace hs hl' g.failure (fun _ h => h) failure, g.cause,
    fun hr hn => forall_mem_replace hs hl' (g.nilClean hr hn) (fun _ h => h) hq⟩

theorem outcome_ghost {last : Bool} {b b' : Stg} (ho : Outcome last b b') {p : Prop} :
    b.idle > 0 ∧
    ((b.failed = true → b.err > 0 ∨ b.errbuf = true ∨ p) → b'.failed = true → b'.err > 0 ∨ b'.errbuf = true ∨ p) := by
  cases ho with
  | ok hi hl => exact ⟨hi, id⟩
  | okLast hi hl => exact ⟨hi, id⟩
  | fail hi => exact ⟨hi, fun _ _ => Or.inl (Nat.succ_pos _)⟩

theorem ginv_step {n n' : Net} (hi : Inv n) (g : GInv n) (hstep : Step n n') : GInv n' := by
  rcases hstep with hs | hs
  · cases hs with
    | feed a a' post hst ht hc ho =>
      obtain ⟨hidle, hfail⟩ := outcome_ghost ho
      exact ginv_replace g _ (pre := []) hst rfl (.inl (.inl hidle)) (failure := hfail)
    | srcDone hc ht => exact ⟨g.failure, g.cause, g.nilClean⟩
    | handover pre a b b' post hst hsend ho =>
      obtain ⟨hidle, hfail⟩ := outcome_ghost ho
      have g1 := ginv_replace g n.todo (hst.trans (List.append_cons ..)) rfl (.inl (.inl hidle)) (failure := hfail)
      exact ginv_replace g1 _ (List.append_cons ..).symm rfl (.inl (.inr (.inl hsend)))
    | sendGiveUp pre a post hst hsend hc =>
      exact ginv_replace g _ hst rfl (.inl (.inr (.inl hsend)))
    | idleExitFirst a post hst hidle hc =>
      exact ginv_replace g _ (pre := []) hst rfl (.inl (.inl hidle))
    | idleExit pre p a post hst hidle hc =>
      exact ginv_replace g _ (hst.trans (List.append_cons ..)) (List.append_cons ..) (.inl (.inl hidle))
    | closeOut pre a post hst hq hc => exact ginv_replace g _ hst rfl (.inr id)
    | errSend pre a post hst he hb =>
      exact ginv_replace g _ hst rfl (.inl (.inr (.inr he))) (failure := fun _ _ => .inr (.inl rfl))
    | errGiveUp pre a post hst he hc =>
      exact ginv_replace g _ hst rfl (.inl (.inr (.inr he))) (failure := fun _ _ => .inr (.inr (.inr hc)))
    | recvErr pre a post hst hb hw =>
      exact ⟨fun _ _ _ => Or.inr (Or.inr (Or.inl rfl)), fun _ => Or.inl rfl, fun _ hn => by simp [Net.resultIsNil] at hn⟩
    | recvClosed pre a post hst hw hq hb => exact ginv_replace g _ hst rfl (.inr id)
    | waiterCancel pre a post hst hw hc => exact ginv_replace g _ hst rfl (.inr id)
    | ret hr hw =>
      refine ⟨fun _ _ _ => Or.inr (Or.inr (Or.inr rfl)), fun _ => Or.inr (Or.inr rfl), ?_⟩
      · -- the return itself: nil means no waiter saw an error and the caller did not cancel
        intro _ hn x hx
        simp only [Net.resultIsNil, Bool.and_eq_true, Bool.not_eq_eq_eq_not, Bool.not_true] at hn
        obtain ⟨hse, hcc⟩ := hn
        have hec : n.ecancel = false := eq_false_of_ne_true fun he => by simpa [hse, hcc, hr] using g.cause he
        have hcn : n.cancelled = false := eq_false_of_ne_true fun hc => by simp [hi.ctx hc] at hec
        obtain ⟨hout, hbuf⟩ := (hi.stg x hx).waiterGone hec (hw x hx)
        have hq := (hi.stg x hx).closedQuiet hout
        refine ⟨hq, eq_false_of_ne_true fun hf => ?_⟩
        simpa [hq.2.2, hbuf, hse, hcn] using g.failure x hx hf
  · cases hs with
    | cancel hc =>
      exact ⟨fun _ _ _ => Or.inr (Or.inr (Or.inr rfl)), fun _ => Or.inr (Or.inl rfl),
        fun _ hn => by simp [Net.resultIsNil] at hn⟩

theorem ginv_reach (todo : Nat) (workers : List Nat) (hw : ∀ w ∈ workers, w ≥ 1) (n : Net)
    (hr : Reach (init todo workers) n) : GInv n := by
  induction hr with
  | refl =>
    refine ⟨fun a ha hf => ?_, nofun, nofun⟩
    obtain ⟨w, _, rfl⟩ := List.mem_map.mp ha
    simp [freshStg] at hf
  | step hr' hs ih => exact ginv_step (inv_reach _ _ (inv_init todo workers hw) hr') ih hs

/-- the part of the measure a stage contributes when `r` stages follow it: the summand of the model's `stagesMeasure`
    (`stagesMeasure_cons`), named so that a step can be charged to the one stage it changes.  The weights: a worker 2 while idle or reporting,
    0 once exited; a flag 1 until it is set; an item `K + 3` at the source of `K` stages (`measure`) and `r + 3` while held
    in front of `r` more stages: one less after every hand-over, which otherwise swaps a holding and an idle worker,
    and more than the 2 its holder regains where the item leaves the chain. -/
def localM (s : Stg) (r : Nat) : Nat :=
  2 * s.idle + (r + 3) * s.send + 2 * s.err + b2n s.outClosed + (if s.waiter then 1 else 0) + (if s.errbuf then 1 else 0)

theorem stagesMeasure_cons (s : Stg) (rest : List Stg) : stagesMeasure (s :: rest) = localM s rest.length + stagesMeasure rest := rfl

theorem stagesMeasure_frame (pre : List Stg) {l l' : List Stg} (hlen : l'.length = l.length)
    (h : stagesMeasure l' < stagesMeasure l) : stagesMeasure (pre ++ l') < stagesMeasure (pre ++ l) := by
  induction pre with
  | nil => exact h
  | cons p pre ih =>
    simp only [List.cons_append, stagesMeasure_cons, List.length_append, hlen]
    exact Nat.add_lt_add_left ih _

theorem measure_frame (n : Net) {pre l l' : List Stg} (hs : n.stages = pre ++ l) (hlen : l'.length = l.length)
    (h : stagesMeasure l' < stagesMeasure l) : measure { n with stages := pre ++ l' } < measure n := by
  simp only [measure, hs, List.length_append, hlen, Nat.add_lt_add_iff_right, Nat.add_lt_add_iff_left]
  exact stagesMeasure_frame pre hlen h

theorem measure_stage (n : Net) {pre post : List Stg} {a a' : Stg} (hs : n.stages = pre ++ a :: post)
    (h : localM a' post.length < localM a post.length) : measure { n with stages := pre ++ a' :: post } < measure n :=
  measure_frame n hs rfl (Nat.add_lt_add_right h _)

theorem mul_pred_add (w : Nat) {s : Nat} (h : s > 0) : w * (s - 1) + w = w * s := by
  rw [← Nat.mul_add_one, Nat.sub_add_cancel h]

theorem mul_pred_lt {w s : Nat} (hw : w > 0) (h : s > 0) : w * (s - 1) < w * s :=
  Nat.mul_lt_mul_of_pos_left (Nat.sub_one_lt (Nat.ne_of_gt h)) hw

theorem b2n_true : b2n true = 0 := rfl
theorem b2n_false : b2n false = 1 := rfl

/-- taking an item costs an idle worker (2) and may add a held item (`r + 3`) -/
theorem localM_outcome {last : Bool} {b b' : Stg} (ho : Outcome last b b') (r : Nat) : localM b' r ≤ localM b r + (r + 1) := by
  cases ho with
  | ok hi _ => simp +arith only [localM, Nat.mul_add_one, ← mul_pred_add 2 hi]
  | okLast => exact Nat.le_add_right _ _
  | fail hi => simp +arith only [localM, ← mul_pred_add 2 hi]

/-- an item leaves the stage (`r + 3`); its holder is idle again (`k = 1`) or has exited (`k = 0`) -/
theorem localM_unsend (a : Stg) (hs : a.send > 0) (k d r : Nat) :
    localM { a with send := a.send - 1, idle := a.idle + k, done := d } r + (r + 3) = localM a r + 2 * k := by
  simp +arith only [localM, ← mul_pred_add (r + 3) hs]

theorem localM_idle_exit (a : Stg) (hi : a.idle > 0) (d r : Nat) :
    localM { a with idle := a.idle - 1, done := d } r < localM a r := by
  simp only [localM, Nat.add_lt_add_iff_right]
  exact mul_pred_lt (Nat.succ_pos _) hi

theorem localM_err_exit (a : Stg) (he : a.err > 0) (d r : Nat) :
    localM { a with err := a.err - 1, done := d } r < localM a r := by
  simp only [localM, Nat.add_lt_add_iff_right, Nat.add_lt_add_iff_left]
  exact mul_pred_lt (Nat.succ_pos _) he

theorem localM_waiter (a : Stg) (hw : a.waiter = true) (r : Nat) : localM { a with waiter := false } r < localM a r := by
  simp only [localM, hw, Bool.false_eq_true, ↓reduceIte, Nat.add_lt_add_iff_right]
  exact Nat.lt_succ_self _

end Gtree.Net
