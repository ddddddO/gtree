import Gtree.Model.Grow
import Gtree.Model.Spread
import Gtree.Spec.Render
import Gtree.Lemmas.Tree
/-
  The grower assembles a branch bottom-up (connector first, then every ancestor's continuation string prepended
  while walking up); the spec draws top-down.  Both give the same rows, one per node.
-/
namespace Gtree

def indOf (f : Fmt) (l : Bool) : Bytes := if l then f.lastI else f.midI
def dirOf (f : Fmt) (l : Bool) : Bytes := if l then f.lastD else f.midD

/-- prefix contributed by the ancestors (nearest first in `anc`), outermost first in the result -/
def prefixOf (f : Fmt) : List Anc → Bytes
  | [] => []
  | a :: anc => prefixOf f anc ++ indOf f a.2

theorem branchOf_eq (f : Fmt) (me : Bool) (anc : List Anc) :
    branchOf f me anc = prefixOf f anc ++ dirOf f me := by
  unfold branchOf
  have h : ∀ acc, anc.foldl (fun acc a => (if a.2 then f.lastI else f.midI) ++ acc) acc = prefixOf f anc ++ acc := by
    induction anc with
    | nil => intro acc; simp [prefixOf]
    | cons a anc ih => intro acc; simp only [List.foldl, ih, prefixOf, indOf, List.append_assoc]
  rw [h]; rfl

theorem growKids_cons (f : Fmt) (rn : Bytes) (anc : List Anc) (lvl : Nat) (n : Bytes) (ch ts : List T) :
    growKids f rn anc lvl (T.mk n ch :: ts) =
      { name := n, branch := branchOf f ts.isEmpty anc, level := lvl, path := pathOf rn n anc, hasChild := !ch.isEmpty }
        :: growKids f rn ((n, ts.isEmpty) :: anc) (lvl + 1) ch ++ growKids f rn anc lvl ts := by
  cases ts with
  | nil => simp [growKids, growNode]
  | cons t2 ts => simp [growKids, growNode]

theorem specKids_cons (f : Fmt) (pre n : Bytes) (ch ts : List T) :
    specKids f pre (T.mk n ch :: ts) =
      (pre ++ dirOf f ts.isEmpty ++ [sp] ++ n) :: specKids f (pre ++ indOf f ts.isEmpty) ch ++ specKids f pre ts := by
  cases ts with
  | nil => simp [specKids, dirOf, indOf]
  | cons t2 ts => simp [specKids, dirOf, indOf]

theorem growKids_rows (f : Fmt) (rn : Bytes) (ks : List T) (anc : List Anc) (lvl : Nat) (h2 : 2 ≤ lvl) :
    (growKids f rn anc lvl ks).map Visit.row = specKids f (prefixOf f anc) ks := by
  induction ks using forest_induct generalizing anc lvl with
  | nil => simp [growKids, specKids]
  | cons n ch ts ihch ihts =>
    have h : (lvl == 1) = false := beq_false_of_ne (Nat.ne_of_gt h2)
    rw [growKids_cons, specKids_cons, List.map_append, List.map_cons, ihts anc lvl h2, ihch _ (lvl + 1) (Nat.le_succ_of_le h2)]
    -- where bottom-up meets top-down: `prefixOf f ((n, l) :: anc) = prefixOf f anc ++ indOf f l` is the spec's `pre ++ indOf f l`
    simp [Visit.row, h, branchOf_eq, prefixOf]

theorem growRoot_rows (f : Fmt) (t : T) : (growRoot f t).map Visit.row = specRoot f t := by
  cases t with
  | mk n ks =>
    have := growKids_rows f n ks [] 2 (Nat.le_refl 2)
    simp [growRoot, specRoot, Visit.row, this, prefixOf]

theorem growKids_length (f : Fmt) (rn : Bytes) (ks : List T) (anc : List Anc) (lvl : Nat) :
    (growKids f rn anc lvl ks).length = sizeList ks := by
  induction ks using forest_induct generalizing anc lvl with
  | nil => simp [growKids, sizeList]
  | cons n ch ts ihch ihts =>
    rw [growKids_cons, List.length_append, List.length_cons, ihch, ihts, sizeList, T.size, Nat.add_comm 1]

theorem growRoot_length (f : Fmt) (t : T) : (growRoot f t).length = t.size := by
  cases t with
  | mk n ks => simp [growRoot, T.size, growKids_length]; exact Nat.add_comm _ 1

theorem textChunks_eq (f : Fmt) (t : T) : textChunks f t = (specRoot f t).map (fun l => l ++ [lf]) := by
  unfold textChunks lineOf
  rw [← growRoot_rows]
  simp [List.map_map, Function.comp_def]

theorem text_of_roots (f : Fmt) (roots : List T) :
    (roots.map (textChunks f)).flatten.flatten = renderSpec f roots := by
  unfold renderSpec
  induction roots with
  | nil => simp
  | cons r rs ih =>
    simp only [List.map_cons, List.flatten_cons, List.flatten_append, ih, textChunks_eq, List.map_append]

end Gtree
