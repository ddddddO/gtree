import Gtree.Model.Spreader
/- The printer of the massive mode under its lock: in every reachable state the output is whole blocks followed by what
   the lock holder has written so far, and no block is lost or duplicated. -/
namespace Gtree.Spread

/-- the lock holder's whole block, if any -/
def curBlock (written : List Bytes) (s : St) : List Block :=
  (s.cur.map (written ++ ·)).toList

/-- invariant of the locked printer: the output is whole blocks, then the written part of the lock holder's;
    no block is lost or duplicated -/
def Inv (blocks : List Block) (s : St) : Prop :=
  ∃ (done : List Block) (written : List Bytes),
    s.out = done.flatten ++ written ∧ (s.cur = none → written = []) ∧
    blocks.Perm (s.pending ++ (s.waiting ++ (curBlock written s ++ done)))

theorem perm_move {α} (a : List α) (b : α) (c r : List α) : ((a ++ b :: c) ++ r).Perm ((a ++ c) ++ b :: r) :=
  (List.perm_middle.append_right r).trans List.perm_middle.symm

theorem inv_step (blocks : List Block) (s s' : St) (hi : Inv blocks s) (h : Step true s s') : Inv blocks s' := by
  obtain ⟨done, written, hout, hnone, hperm⟩ := hi
  cases h with
  | take a b c hp =>
    rw [hp] at hperm
    exact ⟨done, written, hout, hnone, hperm.trans (perm_move a b c _)⟩
  | acquire a b c hc hw =>
    rw [hnone hc] at hout hperm
    rw [hw, curBlock, hc] at hperm
    exact ⟨done, [], hout, fun _ => rfl, hperm.trans ((perm_move a b c done).append_left _)⟩
  | write l ls hc =>
    refine ⟨done, written ++ [l], by simp [hout], by simp, ?_⟩
    simpa [hc, curBlock] using hperm
  | release hc =>
    refine ⟨done ++ [written], [], by simp [hout], fun _ => rfl, ?_⟩
    simpa [hc, curBlock] using hperm.trans ((List.perm_append_comm.append_left _).append_left _)
  | writeUnlocked a l ls c hl hw => exact absurd hl (by decide)

theorem inv_reach (blocks : List Block) (s : St) (h : Reach true (init blocks) s) : Inv blocks s := by
  induction h with
  | refl => exact ⟨[], [], rfl, fun _ => rfl, by simp [init, curBlock]⟩
  | step _ hs ih => exact inv_step blocks _ _ ih hs

end Gtree.Spread
