import Gtree.Lemmas.PathLex
import Gtree.Lemmas.Render
/-
  Trees all of whose names are single valid path elements (`AllElemT`), and the paths the grower computes for them.
-/
namespace Gtree

/-- the paths of the nodes below `pre`, in pre-order: the names from the root joined by '/' -/
def specPaths (pre : List Bytes) : List T → List Bytes
  | [] => []
  | .mk n ks :: rest => joinSlash (pre ++ [n]) :: specPaths (pre ++ [n]) ks ++ specPaths pre rest

mutual
/-- every name in the tree is a single valid path element -/
def AllElemT : T → Prop
  | .mk n ks => Elem n ∧ AllElemL ks
def AllElemL : List T → Prop
  | [] => True
  | t :: ts => AllElemT t ∧ AllElemL ts
end

theorem allElemL_of_visits (f : Fmt) (r : Bytes) (ks : List T) (anc : List Anc) (lvl : Nat)
    (h : ∀ v ∈ growKids f r anc lvl ks, Elem v.name) : AllElemL ks := by
  induction ks using forest_induct generalizing anc lvl with
  | nil => rw [AllElemL]; trivial
  | cons n sub ts ihsub ihts =>
    rw [growKids_cons] at h
    simp only [List.mem_append, List.mem_cons] at h
    rw [AllElemL, AllElemT]
    exact ⟨⟨h _ (.inl (.inl rfl)), ihsub _ _ fun v hv => h v (.inl (.inr hv))⟩, ihts _ _ fun v hv => h v (.inr hv)⟩

theorem allElemT_of_visits (f : Fmt) (t : T) (h : ∀ v ∈ growRoot f t, Elem v.name) : AllElemT t := by
  cases t with
  | mk n sub =>
    simp only [growRoot, List.mem_cons] at h
    rw [AllElemT]
    exact ⟨h _ (.inl rfl), allElemL_of_visits f n sub [] 2 fun v hv => h v (.inr hv)⟩

theorem growKids_paths (f : Fmt) (rn : Bytes) (hr : Elem rn) (ks : List T) (anc : List Anc) (lvl : Nat)
    (hk : AllElemL ks) (ha : ∀ a ∈ anc, Elem a.1) :
    (growKids f rn anc lvl ks).map Visit.path = specPaths (rn :: anc.reverse.map (·.1)) ks := by
  induction ks using forest_induct generalizing anc lvl with
  | nil => simp [growKids, specPaths]
  | cons n ch ts ihch ihts =>
    rw [AllElemL, AllElemT] at hk
    obtain ⟨⟨hn, hch⟩, hrest⟩ := hk
    rw [growKids_cons, List.map_append, List.map_cons]
    rw [ihch _ _ hch (List.forall_mem_cons.mpr ⟨hn, ha⟩), ihts anc lvl hrest ha, pathOf_elems rn n anc hr hn ha, specPaths]
    simp

theorem growKids_pathOf (f : Fmt) (r : Bytes) (ks : List T) (anc : List Anc) (lvl : Nat)
    (hk : AllElemL ks) (hanc : ∀ a ∈ anc, Elem a.1) :
    ∀ v ∈ growKids f r anc lvl ks, ∃ anc', (∀ a ∈ anc', Elem a.1) ∧ Elem v.name ∧ v.path = pathOf r v.name anc' := by
  induction ks using forest_induct generalizing anc lvl with
  | nil => intro v hv; rw [growKids] at hv; cases hv
  | cons n sub ts ihsub ihts =>
    rw [AllElemL, AllElemT] at hk
    intro v hv
    rw [growKids_cons] at hv
    simp only [List.mem_append, List.mem_cons] at hv
    rcases hv with (rfl | hv) | hv
    · exact ⟨anc, hanc, hk.1.1, rfl⟩
    · exact ihsub _ _ hk.1.2 (List.forall_mem_cons.mpr ⟨hk.1.1, hanc⟩) v hv
    · exact ihts _ _ hk.2 hanc v hv

theorem growRoot_shape (f : Fmt) (t : T) (h : AllElemT t) :
    ∀ v ∈ growRoot f t, ∃ P, (∀ e ∈ P, Elem e) ∧ Elem v.name ∧ v.path = joinSlash (P ++ [v.name]) := by
  cases t with
  | mk n sub =>
    rw [AllElemT] at h
    intro v hv
    simp only [growRoot, List.mem_cons] at hv
    rcases hv with rfl | hv
    · exact ⟨[], by simp, h.1, by simp [joinSlash]⟩
    · obtain ⟨anc, ha, hn, hp⟩ := growKids_pathOf f n sub [] 2 h.2 (by simp) v hv
      refine ⟨n :: anc.reverse.map (·.1), ?_, hn, by rw [hp, pathOf_elems n v.name anc h.1 hn ha]; simp⟩
      simp only [List.mem_cons, List.mem_map, List.mem_reverse]
      rintro e (rfl | ⟨a, ha', rfl⟩)
      · exact h.1
      · exact ha a ha'

end Gtree
