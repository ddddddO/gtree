import Gtree.Lemmas.ByteEq
import Gtree.Model.Parser
/- The parser's byte-string helpers (`cut`, `countB`, `trimB`, `isBlank`) on the forms of input the row lemmas feed them. -/
namespace Gtree

theorem cut_cons_ne (b x : UInt8) (rest : Bytes) (h : x ≠ b) :
    cut b (x :: rest) = (cut b rest).map (fun p => (x :: p.1, p.2)) := by
  simp only [cut, beq_false_of_ne h, Bool.false_eq_true, if_false]
  cases cut b rest with
  | none => rfl
  | some p => obtain ⟨l, r⟩ := p; rfl

theorem cut_append_not_mem (s : UInt8) (ind rest : Bytes) (h : s ∉ ind) :
    cut s (ind ++ rest) = (cut s rest).map (fun p => (ind ++ p.1, p.2)) := by
  induction ind with
  | nil => cases h : cut s rest <;> simp [h]
  | cons x xs ih =>
    rw [List.mem_cons, not_or] at h
    rw [List.cons_append, cut_cons_ne s x _ (Ne.symm h.1), ih h.2]
    cases cut s rest <;> rfl

theorem cut_own (ind tl : Bytes) (b : UInt8) (hbn : b ∉ ind) : cut b (ind ++ b :: tl) = some (ind, tl) := by
  rw [cut_append_not_mem b ind _ hbn]
  simp [cut]

theorem countB_eq_count (b : UInt8) (xs : Bytes) : countB b xs = xs.count b := by
  induction xs with
  | nil => rfl
  | cons x xs ih => rw [countB, ih, List.count_cons, Nat.add_comm]

theorem countB_eq_length_iff (d : UInt8) {xs : Bytes} : countB d xs = xs.length ↔ xs.all (· == d) = true := by
  rw [countB_eq_count, List.count_eq_length, List.all_eq_true]
  exact forall_congr' fun b => imp_congr_right fun _ => by rw [beq_iff_eq, eq_comm]

theorem trimLeftB_of_head (b : UInt8) (s : Bytes) (h : s.head? ≠ some b) : trimLeftB b s = s := by
  cases s with
  | nil => rfl
  | cons x xs =>
    have : (x == b) = false := by simpa using h
    simp [trimLeftB, this]

theorem trimB_of_ends (b : UInt8) (s : Bytes) (h1 : s.head? ≠ some b) (h2 : s.getLast? ≠ some b) : trimB b s = s := by
  unfold trimB trimRightB
  rw [trimLeftB_of_head b s h1, trimLeftB_of_head b s.reverse (by simpa using h2)]
  simp

theorem isBlankFuel_indent_append (ind rest : Bytes) (fuel : Nat) (h : ∀ y ∈ ind, y = sp ∨ y = tab) :
    isBlankFuel (ind.length + fuel) (ind ++ rest) = isBlankFuel fuel rest := by
  induction ind with
  | nil => simp
  | cons c ind ih =>
    have hk : spaceRuneLen (c :: (ind ++ rest)) = 1 := by
      rcases h c (by simp) with rfl | rfl <;> rfl
    rw [List.length_cons, Nat.add_right_comm, List.cons_append, isBlankFuel, hk]
    · exact ih (fun y hy => h y (by simp [hy]))
    · exact List.cons_ne_nil _ _

theorem isBlank_indent_append (ind rest : Bytes) (h : ∀ y ∈ ind, y = sp ∨ y = tab) :
    isBlank (ind ++ rest) = isBlank rest := by
  unfold isBlank
  rw [List.length_append]
  exact isBlankFuel_indent_append ind rest rest.length h

theorem isBlank_of_blanks (ind : Bytes) (h : ∀ y ∈ ind, y = sp ∨ y = tab) : isBlank ind = true := by
  have := isBlank_indent_append ind [] h
  rwa [List.append_nil] at this

theorem isBlank_symbol_row (b : UInt8) (hb : isSymbolByte b = true) (rest : Bytes) : isBlank (b :: rest) = false := by
  have h0 : spaceRuneLen (b :: rest) = 0 := by
    simp only [isSymbolByte, Bool.or_eq_true, beq_iff_eq] at hb
    rcases hb with ((rfl | rfl) | rfl) | rfl <;> rfl
  simp [isBlank, isBlankFuel, h0]

theorem isBlank_indent_symbol (c b : UInt8) (hc : c = sp ∨ c = tab) (hb : isSymbolByte b = true)
    (m : Nat) {rest : Bytes} : isBlank (List.replicate m c ++ b :: rest) = false := by
  rw [isBlank_indent_append _ _ (fun y hy => List.eq_of_mem_replicate hy ▸ hc)]
  exact isBlank_symbol_row b hb rest

end Gtree
