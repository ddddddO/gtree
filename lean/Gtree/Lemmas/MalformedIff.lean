import Gtree.Lemmas.ParseAny
import Gtree.Lemmas.Build
import Gtree.Spec.MalformedErr
/-
  The generator rejects a document exactly at its first malformed row (Spec/Malformed.lean), with the
  error of that row's class: a simulation between the generator's state and the declarative notation.
-/
namespace Gtree

/-- the generator's state stands for the notation -/
structure Rel (g : GState) (n : Notation) : Prop where
  sharp : g.p.sharp = n.heading
  spaces : g.p.spaces = n.unit
  sep : g.p.sep = n.blank
  ok : SepOK g.p
  cur0 : g.cur = none ↔ n.level = 0
  len : ∀ z, g.cur = some z → z.length = n.level

theorem rel_init : Rel {} {} :=
  ⟨rfl, rfl, rfl, Or.inl rfl, by simp, by intro z h; simp at h⟩

theorem addItem_place (g : GState) (n : Notation) (h : Nat) (text row : Bytes) (hr : Rel g n) (hh : 1 ≤ h) :
    match place n h with
    | .error m => addItem g h text row = .error (toGErr (row, m))
    | .ok n' => ∃ g', addItem g h text row = .ok g' ∧ Rel g' n' := by
  unfold place
  by_cases h1 : h = 1
  · subst h1
    exact ⟨_, addItem_root g text row, hr.sharp, hr.spaces, hr.sep, hr.ok, by simp, fun z hz => by cases hz; rfl⟩
  · rw [addItem_child g h text row h1, if_neg (by simpa using h1)]
    by_cases hl : n.level = 0
    · rw [if_pos (by simpa using hl), hr.cur0.mpr hl]
      rfl
    · rw [if_neg (by simpa using hl)]
      cases hc : g.cur with
      | none => exact absurd (hr.cur0.mp hc) hl
      | some z =>
        -- `dfs` refuses exactly when `place` sees a jump
        have hd := dfs_eq h text z (Nat.lt_of_le_of_ne hh (Ne.symm h1))
        simp only [Nat.lt_sub_iff_add_lt, hr.len z hc] at hd
        dsimp only
        by_cases h4 : n.level + 1 < h
        · rw [if_pos h4] at hd ⊢
          rw [hd]
          rfl
        · rw [if_neg h4] at hd ⊢
          rw [hd]
          exact ⟨_, rfl, hr.sharp, hr.spaces, hr.sep, hr.ok, ⟨fun e => (nomatch e), fun e => absurd e (Nat.ne_of_gt hh)⟩,
            fun z' hz' => by cases hz'; exact dfs_length h text z _ hd⟩

def Notation.toP (n : Notation) : PState := { sharp := n.heading, spaces := n.unit, sep := n.blank }

def Notation.ofP (p : PState) (lvl : Nat) : Notation :=
  { heading := p.sharp, unit := p.spaces, blank := p.sep, level := lvl }

/-- the judgement of the attempt with the row's own bullet symbol -/
def judgeOwn (n : Notation) : PState × Option (Nat × Bytes) → Option (Except Malformation Notation)
  | (_, none) => some (.error .badIndent)
  | (p', some (k, after)) =>
    if (trimPrefixB sp after).isEmpty then some (.error .emptyText)
    else some (place (Notation.ofP p' n.level) (calculateHierarchy p' k))

/-- the judgement of a row that is not blank and not a heading, in the parser's terms -/
def judgeList (n : Notation) (row : Bytes) : Option (Except Malformation Notation) :=
  match afterIndent row with
  | [] => some (.error .noBullet)
  | b :: text =>
    if !isBulletByte b then some (.error .noBullet) else judgeOwn n (ownAttempt n.toP (indentOf row) text)

theorem judge_eq_judgeList (n : Notation) (row : Bytes) (hnb : isBlank row = false) (hhead : row.head? ≠ some shp) :
    judge n row = judgeList n row := by
  unfold judge judgeList
  rw [if_neg (by simp [hnb])]
  split
  · rename_i after; simp [shp] at hhead
  · cases afterIndent row with
    | nil => rfl
    | cons b text =>
      dsimp only
      cases isBulletByte b with
      | false => rfl
      | true =>
        simp only [Bool.not_true, Bool.false_eq_true, if_false]
        cases indentOf row with
        | nil =>
          simp only [ownAttempt, judgeOwn, calcH_unindented ({ n.toP with sep := none } : PState) 0 rfl, Nat.zero_add]
          rfl
        | cons c ind' =>
          have hd : (presep n.toP c).sep = some (n.blank.getD c) := by
            unfold presep Notation.toP
            cases n.blank <;> rfl
          rw [ownAttempt_cons n.toP c ind' text (n.blank.getD c) hd]
          rw [List.length_cons, show n.toP.spaces = n.unit from rfl]
          -- both sides test the same two conditions; what remains is the placing of an accepted item
          rw [apply_ite (judgeOwn n), apply_ite (judgeOwn n)]
          generalize hu : (if (n.unit == 0) = true then ind'.length + 1 else n.unit) = u
          have hu0 : u ≠ 0 := hu ▸ learntUnit_ne_zero _ _
          have hlvl : calculateHierarchy ({ presep n.toP c with spaces := u } : PState) (ind'.length + 1)
              = (ind'.length + 1) / u + 1 + (if n.heading = true then 1 else 0) := by
            rw [calcH_sep ({ presep n.toP c with spaces := u } : PState) _ _ hd hu0]
            simp only [presep_sharp]
            rfl
          have hn : Notation.ofP ({ presep n.toP c with spaces := u } : PState) n.level
              = { n with blank := some (n.blank.getD c), unit := u } := by
            simp only [Notation.ofP, presep_sharp, hd]
            rfl
          simp only [judgeOwn, hlvl, hn]

theorem judge_heading (n : Notation) (after : Bytes) (hnb : isBlank (shp :: after) = false) :
    judge n (shp :: after) =
      if (trimB sp (trimLeftB shp after)).isEmpty then some (.error .emptyText)
      else some (.ok { n with heading := true, level := 1 }) := by
  unfold judge
  rw [if_neg (by simp [hnb])]
  rfl

theorem ownAttempt_ok (st : PState) (ind tl : Bytes) (hok : SepOK st) (hind : ∀ y ∈ ind, y = sp ∨ y = tab) :
    SepOK (ownAttempt st ind tl).1 := by
  cases ind with
  | nil => exact Or.inl rfl
  | cons c ind' =>
    obtain ⟨v, _, e⟩ := ownAttempt_cons_fst st c ind' tl
    rw [e]
    exact sepOK_presep st c hok (hind c (by simp))

theorem step_rel_heading (g : GState) (n : Notation) (after : Bytes) (hr : Rel g n) :
    if (trimB sp (trimLeftB shp after)).isEmpty then genStep g (shp :: after) = .error (toGErr (shp :: after, .emptyText))
    else ∃ g', genStep g (shp :: after) = .ok g' ∧ Rel g' { n with heading := true, level := 1 } := by
  have hp := parse_heading g.p after
  generalize (trimB sp (trimLeftB shp after)).isEmpty = c at hp ⊢
  cases c with
  | true => exact genStep_of_empty g _ _ hp
  | false =>
    rw [if_neg Bool.false_ne_true, genStep_of_parse g _ _ _ _ hp]
    exact ⟨_, rfl, rfl, hr.spaces, hr.sep, hr.ok, by simp, fun z hz => by cases hz; rfl⟩

theorem step_rel (g : GState) (n : Notation) (row : Bytes) (hr : Rel g n) :
    match judge n row with
    | none => genStep g row = .ok g
    | some (.error m) => genStep g row = .error (toGErr (row, m))
    | some (.ok n') => ∃ g', genStep g row = .ok g' ∧ Rel g' n' := by
  by_cases hb : isBlank row = true
  · unfold judge
    rw [if_pos hb]
    exact genStep_blank_row g row hb
  · have hb' : isBlank row = false := by simpa using hb
    by_cases hh : row.head? = some shp
    · obtain ⟨after, rfl⟩ := List.head?_eq_some_iff.mp hh
      rw [judge_heading n after hb']
      have h := step_rel_heading g n after hr
      -- the goal matches on `if c then some (.error …) else some (.ok …)`, `h` is `if c then … else …`: the same for either `c`
      generalize (trimB sp (trimLeftB shp after)).isEmpty = c at h ⊢
      cases c <;> exact h
    · -- `judgeList` and `parse_row` read the same `ownAttempt`
      rw [judge_eq_judgeList n row hb' hh]
      unfold judgeList
      obtain ⟨x, tl, hai, h⟩ := parse_row g.p row hb' hh
      have htoP : n.toP = g.p := by unfold Notation.toP; rw [← hr.sharp, ← hr.spaces, ← hr.sep]
      rw [hai, htoP]
      dsimp only
      cases hbu : isBulletByte x with
      | false =>
        rw [hbu] at h
        exact genStep_of_incorrect g row h
      | true =>
        rw [hbu] at h
        have hok' := ownAttempt_ok g.p (indentOf row) tl hr.ok (indentOf_blank row)
        rw [Bool.not_true, if_neg Bool.false_ne_true]
        cases hown : ownAttempt g.p (indentOf row) tl with
        | mk p' r =>
          rw [hown] at h hok'
          cases r with
          | none => exact genStep_of_incorrect g row h
          | some v =>
            obtain ⟨k, after⟩ := v
            dsimp only [judgeOwn] at h ⊢
            generalize (trimPrefixB sp after).isEmpty = c at h ⊢
            cases c with
            | true => exact genStep_of_empty g _ _ h
            | false =>
              rw [if_neg Bool.false_ne_true, genStep_of_parse g _ _ _ _ h]
              have hr' : Rel { g with p := p' } (Notation.ofP p' n.level) := ⟨rfl, rfl, rfl, hok', hr.cur0, hr.len⟩
              have hpl := addItem_place _ _ _ (trimPrefixB sp after) row hr' (calcH_pos p' k)
              -- `hpl` matches on `place …`, the goal on `some (place …)`: the same two cases
              generalize place (Notation.ofP p' n.level) (calculateHierarchy p' k) = pl at hpl ⊢
              cases pl <;> exact hpl

theorem firstMalformed_mem : ∀ (rows : List Bytes) (n : Notation) (row : Bytes) (m : Malformation),
    firstMalformed n rows = some (row, m) → row ∈ rows
  | [], _, _, _, h => nomatch h
  | r :: rs, n, row, m, h => by
    unfold firstMalformed at h
    split at h
    · exact List.mem_cons_of_mem _ (firstMalformed_mem rs n row m h)
    · cases h; exact List.mem_cons_self
    · exact List.mem_cons_of_mem _ (firstMalformed_mem rs _ row m h)

theorem genRows_firstMalformed : ∀ (rows : List Bytes) (g : GState) (n : Notation), Rel g n →
    (genRows g rows).2 = (firstMalformed n rows).map toGErr := by
  intro rows
  induction rows with
  | nil => intros; rfl
  | cons r rs ih =>
    intro g n hr
    have hstep := step_rel g n r hr
    unfold genRows firstMalformed
    cases hj : judge n r with
    | none =>
      rw [hj] at hstep
      simp only [hstep]
      exact ih g n hr
    | some res =>
      rw [hj] at hstep
      cases res with
      | error m => simp only [hstep, Option.map_some]
      | ok n' =>
        obtain ⟨g', hg', hr'⟩ := hstep
        simp only [hg']
        exact ih g' n' hr'

end Gtree
