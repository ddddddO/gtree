import Gtree.Generated.Heap.Walk
import Gtree.Lemmas.HeapFold
/-
  The walker of the source (simple_tree_walker.go: `walk`, `walkNode`), translated over the heap with the user's callback
  as a state machine: on every heap that holds a forest, the callback is called on exactly the nodes of the forest, in
  pre-order, each once, until it returns an error, which is returned unchanged.
-/
namespace Gtree.SrcH
open Gtree Gtree.Go

/-- call the callback on the pointers in order until it fails -/
def callAll {σ : Type} (cb : Ptr → σ → σ × Option Src.Err) : List Ptr → σ → σ × Option Src.Err
  | [], s => (s, none)
  | p :: ps, s =>
    match cb p s with
    | (s', some e) => (s', some e)
    | (s', none) => callAll cb ps s'

theorem callAll_eq {σ : Type} (cb : Ptr → σ → σ × Option Src.Err) : ∀ (ps : List Ptr) (s : σ),
    callAll cb ps s = runAll cb ps s
  | [], s => rfl
  | p :: ps, s => by
    rw [callAll, runAll]
    rcases cb p s with ⟨s', _ | e⟩
    · exact callAll_eq cb ps s'
    · rfl

/-- the body of the loop of `walkNode` over the children -/
def walkBody {σ : Type} (dw : defaultWalkerSimple) (h : Heap) (cb : Ptr → σ → σ × Option Src.Err) (fuel : Nat) :
    Ptr → σ → Go.Ctl σ (Option (σ × Option Src.Err)) :=
  fun child st_ =>
    match (defaultWalkerSimple.walkNode fuel h st_ dw child cb) with
    | none => Go.Ctl.ret none
    | some r_ =>
      match r_ with
      | (cbs_, err) => if (Option.isSome err) then Go.Ctl.ret (some (cbs_, err)) else Go.Ctl.next cbs_

theorem walkNode_fold {σ : Type} (dw : defaultWalkerSimple) (h : Heap) (cb : Ptr → σ → σ × Option Src.Err) (fuel : Nat) :
    (fun s p => defaultWalkerSimple.walkNode fuel h s dw p cb) = foldNodes cb h fuel := by
  induction fuel with
  | zero => rfl
  | succ fuel ih =>
    funext s p
    rw [defaultWalkerSimple.walkNode, foldNodes, ← ih]
    rcases cb p s with ⟨s1, _ | e⟩ <;> rfl

theorem walk_kids {σ : Type} (dw : defaultWalkerSimple) (h : Heap) (cb : Ptr → σ → σ × Option Src.Err) :
    ∀ (ts : List T) (s : σ) (cs : List Ptr) (par : Ptr) (lvl fuel : Nat), ReprKids h ts cs par lvl →
    sizeList ts ≤ fuel →
    Nonempty (Go.forRange cs s (walkBody dw h cb fuel) =
      (match callAll cb (ptrsKids h ts cs) s with
       | (s', some e) => Go.Ctl.ret (some (s', some e))
       | (s', none) => Go.Ctl.next s')) := by
  intro ts s cs par lvl fuel hr hf
  have := fold_kids cb h ts s cs par lvl fuel hr hf
  rw [← walkNode_fold dw, ← callAll_eq] at this
  exact ⟨this⟩

theorem walk_node {σ : Type} (dw : defaultWalkerSimple) (h : Heap) (cb : Ptr → σ → σ × Option Src.Err)
    (t : T) (s : σ) (p par : Ptr) (lvl fuel : Nat) (hr : Repr h t p par lvl) (hf : t.size ≤ fuel) :
    defaultWalkerSimple.walkNode fuel h s dw p cb = some (callAll cb (ptrs h t p) s) := by
  rw [callAll_eq, ← fold_node cb h t s p par lvl fuel hr hf, ← walkNode_fold dw]

theorem walk_heap {σ : Type} (dw : defaultWalkerSimple) (h : Heap) (cb : Ptr → σ → σ × Option Src.Err)
    (ts : List T) (s : σ) (rs : List Ptr) (fuel : Nat) (hr : ReprRoots h ts rs) (hf : sizeList ts ≤ fuel) :
    defaultWalkerSimple.walk fuel h s dw rs cb = some (callAll cb (ptrsKids h ts rs) s) := by
  obtain ⟨hrun⟩ := walk_kids dw h cb ts s rs 0 1 fuel ((ReprRoots_iff_kids h ts rs).mp hr) hf
  -- the translated `walk` with the lambda of its loop folded into `walkBody` (by `rfl`): `rw [hrun]` needs that form
  show (match Go.forRange rs s (walkBody dw h cb fuel) with
    | Go.Ctl.ret r_ => r_
    | Go.Ctl.brk st_ | Go.Ctl.next st_ => some (st_, none)) = _
  rw [hrun]
  rcases callAll cb (ptrsKids h ts rs) s with ⟨s', _ | e⟩ <;> rfl

end Gtree.SrcH
