import Gtree.Lemmas.GenStep
import Gtree.Spec.Merge
import Gtree.Spec.Spelling
import Gtree.Lemmas.Distinct
/-
  The zipper builder (`dfs` on the stack of open nodes) fed with the pre-order items of a forest
  builds exactly the merged forest of the specification (`absorbAll`): `feed_items` for the zipper alone, and
  `addItems_forest`, the form the other files use, for the generator's `addItem` over the items of a whole forest.
-/
namespace Gtree

def feed : Zipper → List (Nat × Bytes) → Option Zipper
  | z, [] => some z
  | z, (h, x) :: its => match dfs h x z with
    | none => none
    | some z' => feed z' its

theorem feed_append (z : Zipper) (a b : List (Nat × Bytes)) :
    feed z (a ++ b) = (feed z a).bind (fun z' => feed z' b) := by
  induction a generalizing z with
  | nil => simp [feed]
  | cons it a ih =>
    obtain ⟨h, x⟩ := it
    simp only [List.cons_append, feed]
    cases dfs h x z with
    | none => simp
    | some z' => simp [ih]

/-- the deepest open node has no children to the right of an open child -/
def TopClosed : Zipper → Prop
  | [] => True
  | f :: _ => f.right = []

theorem topClosed_upOne (z : Zipper) (h : TopClosed z) : TopClosed (upOne z) := by
  match z with
  | [] => simpa [upOne] using h
  | [f] => simpa [upOne] using h
  | f :: p :: rest => simp [upOne, TopClosed]

theorem upN_succ_upOne (k : Nat) (z : Zipper) : upN (k + 1) z = upOne (upN k z) := by
  induction k generalizing z with
  | zero => rfl
  | succ k ih => exact ih (upOne z)

theorem upN_length (k : Nat) (z : Zipper) (h : k + 1 ≤ z.length) : (upN k z).length = z.length - k := by
  induction k generalizing z with
  | zero => rfl
  | succ k ih =>
    obtain _ | ⟨f, _ | ⟨p, rest⟩⟩ := z
    · exact absurd h (by simp)
    · exact absurd h (by simp)
    · rw [upN, ih (upOne (f :: p :: rest)) (Nat.le_of_succ_le_succ h)]
      exact (Nat.add_sub_add_right _ 1 k).symm

theorem topClosed_upN {k : Nat} (z : Zipper) (h : TopClosed z) : TopClosed (upN k z) := by
  induction k generalizing z with
  | zero => simpa [upN] using h
  | succ k ih => exact ih _ (topClosed_upOne z h)

theorem closeTo_length (n : Nat) (z : Zipper) (h1 : 1 ≤ n) (h2 : n ≤ z.length) : (closeTo n z).length = n := by
  unfold closeTo
  rw [upN_length _ _ (Nat.sub_lt (Nat.lt_of_lt_of_le h1 h2) h1), Nat.sub_sub_self h2]

theorem closeTo_cons (n : Nat) (z : Zipper) (h1 : 1 ≤ n) (h2 : n ≤ z.length) :
    ∃ f rest, closeTo n z = f :: rest ∧ rest.length + 1 = n := by
  have hl := closeTo_length n z h1 h2
  cases hc : closeTo n z with
  | nil => rw [hc] at hl; subst hl; exact absurd h1 (Nat.not_succ_le_zero 0)
  | cons f rest => rw [hc] at hl; exact ⟨f, rest, rfl, hl⟩

theorem closeTo_self (n : Nat) (z : Zipper) (h : z.length ≤ n) : closeTo n z = z := by
  unfold closeTo
  rw [Nat.sub_eq_zero_of_le h]; rfl

theorem closeTo_succ (n : Nat) (z : Zipper) (h : n + 1 ≤ z.length) : closeTo n z = upOne (closeTo (n + 1) z) := by
  unfold closeTo
  rw [← Nat.add_sub_add_right z.length 1 n, Nat.sub_add_comm h, upN_succ_upOne]

theorem updateFirst_of_split (x : Bytes) (g : T → T) :
    ∀ (kids : List T), (match splitAtName x kids with
      | some (l, c, r) => updateFirst x g kids = some (l ++ g c :: r)
      | none => updateFirst x g kids = none) := by
  intro kids
  induction kids with
  | nil => simp [splitAtName, updateFirst]
  | cons t ts ih =>
    by_cases h : t.name == x
    · simp [splitAtName, updateFirst, h]
    · simp only [splitAtName, updateFirst, h, Bool.false_eq_true, if_false]
      cases hs : splitAtName x ts with
      | none => simp only [hs] at ih; simp [ih]
      | some p =>
        obtain ⟨l, c, r⟩ := p
        simp only [hs] at ih
        simp [ih]

/-- merge `ks` into the deepest open node -/
def absorbTop (ks : List T) : Zipper → Zipper
  | [] => []
  | f :: rest => { name := f.name, left := absorbAll f.left ks, right := [] } :: rest

theorem absorbTop_nil (z : Zipper) (h : TopClosed z) : absorbTop [] z = z := by
  cases z with
  | nil => rfl
  | cons f rest =>
    cases f
    simp only [TopClosed] at h
    simp [absorbTop, absorbAll, h]

theorem up_absorb_descend (n : Bytes) (sub : List T) (f : Frame) (rest : Zipper) (hf : f.right = []) :
    upOne (absorbTop sub (descend n (f :: rest))) =
      { name := f.name, left := absorb f.left (.mk n sub), right := [] } :: rest := by
  have hsp := updateFirst_of_split n (fun c => T.mk c.name (absorbAll c.kids sub)) f.left
  simp only [descend, hf, List.append_nil]
  -- `descend` re-opens the child named `n` if there is one and opens a new last child if not; `upOne` closes it
  -- again, with `sub` merged in, at the place where `absorb` puts the merged child (`absorb_some`, `absorb_none`)
  cases hs : splitAtName n f.left with
  | none =>
    simp only [hs] at hsp
    rw [absorb_none _ _ _ hsp]
    simp only [absorbTop, upOne, Frame.close, List.append_nil]
  | some p =>
    obtain ⟨l, c, r⟩ := p
    simp only [hs] at hsp
    rw [absorb_some _ _ _ _ hsp]
    simp only [absorbTop, upOne, Frame.close, List.append_nil]

theorem descend_length (n : Bytes) (f : Frame) (rest : Zipper) : (descend n (f :: rest)).length = rest.length + 2 := by
  simp only [descend]
  cases splitAtName n (f.left ++ f.right) with
  | none => simp
  | some p => obtain ⟨l, c, r⟩ := p; simp

theorem dfs_length (h : Nat) (x : Bytes) (z z' : Zipper) (hd : dfs h x z = some z') : z'.length = h := by
  obtain ⟨h2, hle, rfl⟩ := dfs_some h x z z' hd
  obtain ⟨f, rest, hct, hl⟩ := closeTo_cons (h - 1) z (Nat.le_sub_one_of_lt h2) hle
  rw [hct, descend_length, ← Nat.sub_add_cancel (Nat.le_of_succ_le h2), ← hl]

theorem topClosed_descend (n : Bytes) (z : Zipper) : TopClosed (descend n z) := by
  match z with
  | [] => simp [descend, TopClosed]
  | f :: rest =>
    simp only [descend]
    cases splitAtName n (f.left ++ f.right) with
    | none => simp [TopClosed]
    | some p => obtain ⟨l, c, r⟩ := p; simp [TopClosed]

/-- Feeding the items of the forest `ks`, written at level `d + 1`, to a zipper that is at least `d` deep merges `ks`
    into the node open at depth `d` (`absorbTop ks (closeTo d z)`); the zipper stays at least `d` deep and its deepest
    node has nothing to its right, so the next forest can be fed the same way. -/
theorem feed_items : ∀ (ks : List T) (z : Zipper) (d : Nat), 1 ≤ d → d ≤ z.length → TopClosed z →
    ∃ z', feed z (items (d + 1) ks) = some z' ∧ TopClosed z' ∧ d ≤ z'.length ∧
          closeTo d z' = absorbTop ks (closeTo d z) := by
  intro ks
  induction ks using forest_induct with
  | nil =>
    intro z d h1 h2 htc
    exact ⟨z, by simp [items, feed], htc, h2, (absorbTop_nil _ (topClosed_upN z htc)).symm⟩
  | cons n sub ts ihsub ihts =>
    intro z d h1 h2 htc
    obtain ⟨f, rest, hP, hlen⟩ := closeTo_cons d z h1 h2
    have hf : f.right = [] := by
      have : TopClosed (closeTo d z) := topClosed_upN z htc
      rwa [hP] at this
    have hdfs : dfs (d + 1) n z = some (descend n (f :: rest)) := by
      rw [dfs_eq (d + 1) n z (Nat.succ_le_succ h1), Nat.add_sub_cancel, if_neg (Nat.not_lt.mpr h2), hP]
    have hz1 : (descend n (f :: rest)).length = d + 1 := by rw [descend_length, ← hlen]
    obtain ⟨z2, hf2, htc2, hl2, hc2⟩ :=
      ihsub _ (d + 1) (Nat.succ_pos d) (Nat.le_of_eq hz1.symm) (topClosed_descend n (f :: rest))
    obtain ⟨z3, hf3, htc3, hl3, hc3⟩ := ihts z2 d h1 (Nat.le_of_succ_le hl2) htc2
    refine ⟨z3, ?_, htc3, hl3, ?_⟩
    · simp only [items]
      rw [feed_append]
      simp only [feed, hdfs]
      rw [hf2]; exact hf3
    · -- closing `z2` down to `d` closes the subtree under `n` and hangs it into `f`
      rw [hc3, closeTo_succ d z2 hl2, hc2, closeTo_self (d + 1) _ (Nat.le_of_eq hz1), up_absorb_descend n sub f rest hf, hP]
      -- left: `absorbAll (absorb f.left (.mk n sub)) ts = absorbAll f.left (.mk n sub :: ts)`, the defining equation
      rfl

/-- the generator's fold over already parsed items (the row is only used in error messages) -/
def addItems (s : GState) : List (Nat × Bytes) → Except GErr GState
  | [] => .ok s
  | (h, x) :: rest => match addItem s h x [] with
    | .error e => .error e
    | .ok s' => addItems s' rest

theorem addItems_append (s : GState) (a b : List (Nat × Bytes)) :
    addItems s (a ++ b) = (match addItems s a with | .error e => .error e | .ok s' => addItems s' b) := by
  induction a generalizing s with
  | nil => simp [addItems]
  | cons it a ih =>
    obtain ⟨h, x⟩ := it
    simp only [List.cons_append, addItems]
    cases addItem s h x [] with
    | error e => simp
    | ok s' => simp [ih]

theorem addItems_with_p (g : GState) (q : PState) (its : List (Nat × Bytes)) :
    addItems { g with p := q } its =
      (match addItems g its with
       | .ok r => .ok { r with p := q }
       | .error e => .error e) := by
  induction its generalizing g with
  | nil => simp [addItems]
  | cons it its ih =>
    obtain ⟨h, t⟩ := it
    simp only [addItems, addItem_with_p]
    cases addItem g h t [] with
    | error e => simp
    | ok r => simp [ih]

theorem items_ge (d : Nat) (ks : List T) (it : Nat × Bytes) (h : it ∈ items d ks) : d ≤ it.1 := by
  induction ks using forest_induct generalizing d with
  | nil => simp [items] at h
  | cons n sub rest ihsub ihrest =>
    simp only [items, List.mem_append, List.mem_cons] at h
    rcases h with (h | h) | h
    · subst h; simp
    · exact Nat.le_of_succ_le (ihsub (d + 1) h)
    · exact ihrest d h

theorem addItems_feed (s : GState) (z z' : Zipper) (its : List (Nat × Bytes))
    (hcur : s.cur = some z) (hge : ∀ it ∈ its, 2 ≤ it.1) (hfeed : feed z its = some z') :
    addItems s its = .ok { s with cur := some z' } := by
  induction its generalizing s z with
  | nil =>
    simp only [feed, Option.some.injEq] at hfeed
    subst hfeed
    cases s; simp_all [addItems]
  | cons it its ih =>
    obtain ⟨h, x⟩ := it
    have h2 : 2 ≤ h := hge (h, x) (by simp)
    simp only [feed] at hfeed
    cases hd : dfs h x z with
    | none => simp [hd] at hfeed
    | some z1 =>
      simp only [hd] at hfeed
      simp only [addItems, addItem_child s h x [] (Nat.ne_of_gt h2), hcur, hd]
      have := ih { s with cur := some z1 } z1 rfl (fun it hit => hge it (by simp [hit])) hfeed
      simpa using this

theorem addItems_one_root (s : GState) (r : Bytes) (ks : List T) :
    ∃ z', addItems s ((1, r) :: items 2 ks) = .ok { s with done := s.finishCur, cur := some z' } ∧
      closeAll z' = some (mergeRoot (T.mk r ks)) := by
  obtain ⟨z', hfeed, _, _, hclose⟩ :=
    feed_items ks [{ name := r, left := [], right := [] }] 1 (Nat.le_refl 1) (by simp) (by simp [TopClosed])
  rw [closeTo_self 1 [_] (by simp)] at hclose
  refine ⟨z', ?_, ?_⟩
  · simp only [addItems, addItem_root]
    exact addItems_feed _ _ z' (items 2 ks) rfl (fun it hit => items_ge 2 ks it hit) hfeed
  · simp [closeAll, hclose, absorbTop, Frame.close, mergeRoot, mergeKids]

theorem addItems_forest (f : List T) (s : GState) :
    ∃ s', addItems s (items 1 f) = .ok s' ∧ s'.finishCur = s.finishCur ++ f.map mergeRoot := by
  induction f generalizing s with
  | nil => exact ⟨s, by simp [items, addItems], by simp⟩
  | cons t rest ih =>
    obtain ⟨r, ks⟩ := t
    obtain ⟨z', h1, hcl⟩ := addItems_one_root s r ks
    obtain ⟨s3, h3, hf3⟩ := ih { s with done := s.finishCur, cur := some z' }
    refine ⟨s3, ?_, ?_⟩
    · simp only [items]
      rw [addItems_append, show items (1 + 1) ks = items 2 ks from rfl, h1]
      exact h3
    · rw [hf3]
      simp [GState.finishCur, hcl]

end Gtree
