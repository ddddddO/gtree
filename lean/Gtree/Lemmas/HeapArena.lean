import Gtree.Generated.Heap.Arena
import Gtree.Lemmas.HeapBuilder
import Gtree.Lemmas.Arena
/-
  `NewRoot` and `(*Node).Add` of the source (tree_handler_programmably.go, with `newNode` of node.go and the
  package-level `idxCounter`), translated over the heap (`&Node{…}` takes the allocator's next pointer, the counter is
  the world component `idx_`), are the operations of the arena model (`Model/Programmable.lean`: `Store.newRoot`,
  `Store.add`): the heap with its allocator is the arena — node `i` of the arena is the cell at pointer `i + 1`.
-/
namespace Gtree.SrcH
open Gtree Gtree.Go

/-- the heap, the allocator and the package-level counter represent the arena (the parent links, which the arena does
    not have, are not related).  `closed` is the second half of `Store.WF.bound` (Arena.lean), all that `Add` needs. -/
structure StoreRel (h : Heap) (al : Nat) (idx : Int) (s : Store) : Prop where
  al_eq : al = s.nodes.length + 1
  idx_eq : idx = (s.idxCounter : Int)
  cells : ∀ (i : Nat) (n : PNode), s.nodes[i]? = some n →
    (h (i + 1)).name = n.name ∧ (h (i + 1)).hierarchy = (n.hierarchy : Int) ∧ (h (i + 1)).index = (n.index : Int) ∧
    (h (i + 1)).children = n.children.map (· + 1)
  closed : ∀ (i : Nat) (n : PNode), s.nodes[i]? = some n → ∀ c ∈ n.children, c < s.nodes.length

theorem newNode_eq (h : Heap) (al : Nat) (name : Bytes) (hier idx : Int) :
    newNode h al name hier idx =
      (Heap.set h al { name := name, hierarchy := hier, index := idx, brnch := ⟨[], []⟩, parent := 0, children := [] },
       al + 1, al) := rfl

theorem NewRoot_eq (h : Heap) (al : Nat) (idx : Int) (name : Bytes) :
    NewRoot h al idx name =
      (Heap.set h al { name := name, hierarchy := 1, index := idx + 1, brnch := ⟨[], []⟩, parent := 0, children := [] },
       al + 1, idx + 1, al) := rfl

theorem NewRoot_refines (h : Heap) (al : Nat) (idx : Int) (s : Store) (name : Bytes) (hrel : StoreRel h al idx s) :
    (NewRoot h al idx name).2.2.2 = (s.newRoot name).2 + 1 ∧
    StoreRel (NewRoot h al idx name).1 (NewRoot h al idx name).2.1 (NewRoot h al idx name).2.2.1 (s.newRoot name).1 := by
  obtain ⟨hal, hidx, hcells, hclosed⟩ := hrel
  rw [NewRoot_eq]
  dsimp only
  refine ⟨hal, by rw [s.length_newRoot, hal], by simp [hidx, Store.newRoot], fun i n hn => ?_, fun i n hn c hc => ?_⟩
  · rcases Store.get?_newRoot_some hn with ⟨hi, hn⟩ | ⟨rfl, rfl⟩
    · rw [show Heap.set h al _ (i + 1) = h (i + 1) from if_neg (hal ▸ Nat.succ_ne_succ_iff.mpr (Nat.ne_of_lt hi))]
      exact hcells i n hn
    · subst hal; simp [Heap.set, *]
  · rcases Store.get?_newRoot_some hn with ⟨hi, hn⟩ | ⟨rfl, rfl⟩
    · rw [s.length_newRoot]; exact Nat.lt_succ_of_lt (hclosed i n hn c hc)
    · simp at hc

theorem childNamed_find (h : Heap) (s : Store) (x : Bytes)
    (hcells : ∀ (i : Nat) (n : PNode), s.nodes[i]? = some n → (h (i + 1)).name = n.name) :
    ∀ (cs : List Nat), (∀ c ∈ cs, c < s.nodes.length) →
    childNamed h x (cs.map (· + 1)) =
      (match cs.find? (fun c => match s.get? c with | some cn => cn.name == x | none => false) with
       | some c => c + 1
       | none => 0) := by
  intro cs
  induction cs with
  | nil => intro _; rfl
  | cons c cs ih =>
    intro hlt
    have hc : c < s.nodes.length := hlt c List.mem_cons_self
    obtain ⟨n, hn⟩ : ∃ n, s.nodes[c]? = some n := ⟨s.nodes[c], by simp [hc]⟩
    simp only [List.map_cons, childNamed_cons, List.find?_cons, Store.get?, hn, hcells c n hn]
    cases n.name == x with
    | true => rfl
    | false => exact ih fun c' hc' => hlt c' (List.mem_cons_of_mem _ hc')

theorem Add_eq (h : Heap) (al : Nat) (idx : Int) (parent : Ptr) (text : Bytes) :
    Node.Add h al idx parent text =
      (if childNamed h text (h parent).children != 0 then (h, al, idx, childNamed h text (h parent).children)
       else
         (Node.addChild (Node.setParent
            (Heap.set h al { name := text, hierarchy := (h parent).hierarchy + 1, index := idx + 1, brnch := ⟨[], []⟩,
                             parent := 0, children := [] }) al parent) parent al,
          al + 1, idx + 1, al)) := by
  unfold Node.Add
  rw [findChildByText_eq]
  rfl

/-- `Store.add` returns an `Option`, so pointer and id are related as `id = some (ptr - 1) ∧ ptr ≠ 0`, which for
    `id = some i` is `ptr = i + 1` -/
theorem Add_refines (h : Heap) (al : Nat) (idx : Int) (s : Store) (pid : Nat) (name : Bytes)
    (hrel : StoreRel h al idx s) (hp : pid < s.nodes.length) :
    (s.add pid name).2 = some ((Node.Add h al idx (pid + 1) name).2.2.2 - 1) ∧
    (Node.Add h al idx (pid + 1) name).2.2.2 ≠ 0 ∧
    StoreRel (Node.Add h al idx (pid + 1) name).1 (Node.Add h al idx (pid + 1) name).2.1
      (Node.Add h al idx (pid + 1) name).2.2.1 (s.add pid name).1 := by
  obtain ⟨hal, hidx, hcells, hclosed⟩ := hrel
  obtain ⟨p, hpn⟩ : ∃ p, s.get? pid = some p := ⟨s.nodes[pid], by simp [Store.get?, hp]⟩
  have hpc := hcells pid p hpn
  have hfind : childNamed h name (p.children.map (· + 1)) =
      (match s.findChild p name with | some c => c + 1 | none => 0) :=
    childNamed_find h s name (fun i n hn => (hcells i n hn).1) p.children (hclosed pid p hpn)
  rw [Add_eq, hpc.2.2.2, hfind]
  cases hf : s.findChild p name with
  | some c =>
    rw [s.add_old pid name p c hpn hf, if_pos (by simp)]
    exact ⟨rfl, Nat.succ_ne_zero c, ⟨hal, hidx, hcells, hclosed⟩⟩
  | none =>
    rw [s.add_new pid p name hpn hf, if_neg (by simp)]
    subst hal
    have hpl : pid ≠ s.nodes.length := Nat.ne_of_lt hp
    have hne : s.nodes.length + 1 ≠ pid + 1 := Nat.succ_ne_succ_iff.mpr hpl.symm
    rw [addChild_setParent_comm _ _ _ hne]
    dsimp only
    refine ⟨rfl, Nat.succ_ne_zero _, by rw [s.length_added], by rw [hidx]; rfl, fun i n hn => ?_, fun i n hn c hc => ?_⟩
    · rw [setParent_addChild_apply _ _ _ hne]
      rcases Store.get?_added_some hpn hn with ⟨rfl, rfl⟩ | ⟨hip, hi, hn⟩ | ⟨rfl, rfl⟩
      · simp [Heap.set, hpl, hpc]  -- the parent's cell: one more child
      · simpa [Heap.set, Nat.ne_of_lt hi, hip] using hcells i n hn  -- any other old cell: unchanged
      · simp [Heap.set, hpc, hidx]  -- the new cell
    · rw [s.length_added]
      rcases Store.get?_added_some hpn hn with ⟨rfl, rfl⟩ | ⟨hip, hi, hn⟩ | ⟨rfl, rfl⟩
      · exact Nat.lt_succ_iff_lt_or_eq.mpr ((List.mem_append.mp hc).imp (hclosed i p hpn c) (by simp))
      · exact Nat.lt_succ_of_lt (hclosed i n hn c hc)
      · simp at hc

end Gtree.SrcH
