import Gtree.Lemmas.PlanRun
import Gtree.Lemmas.MkTree
import Gtree.Lemmas.MkOps
/-
  The plan of a forest: the operations `makeDirectoriesAndFiles` issues for it (`opsKids`).  For a fresh forest every
  schedule of them succeeds and is exact; the recursion itself is the in-order schedule.
-/
namespace Gtree

mutual
/-- the operations `makeDirectoriesAndFiles` (the recursion `mkTree`) issues for a subtree, in order -/
def opsTree (exts : List Bytes) (Q : List Bytes) : T → List EOp
  | .mk n ks =>
    if isFileNode exts n (!ks.isEmpty) then [.mk Q, .cr (Q ++ [n])]
    else if ks.isEmpty then [.mk (Q ++ [n])]
    else opsKids exts (Q ++ [n]) ks
def opsKids (exts : List Bytes) (Q : List Bytes) : List T → List EOp
  | [] => []
  | t :: ts => opsTree exts Q t ++ opsKids exts Q ts
end

theorem opsTree_cases (exts : List Bytes) (Q : List Bytes) (n : Bytes) (sub : List T) :
    (sub = [] ∧ isFileNode exts n (!sub.isEmpty) = true ∧ opsTree exts Q (.mk n sub) = [.mk Q, .cr (Q ++ [n])]) ∨
    (sub = [] ∧ isFileNode exts n (!sub.isEmpty) = false ∧ opsTree exts Q (.mk n sub) = [.mk (Q ++ [n])]) ∨
    (sub ≠ [] ∧ isFileNode exts n (!sub.isEmpty) = false ∧ opsTree exts Q (.mk n sub) = opsKids exts (Q ++ [n]) sub) := by
  cases sub with
  | nil => cases hf : isFileNode exts n false <;> simp [opsTree, hf]
  | cons s ss => simp [opsTree, isFileNode_inner]

theorem mkTree_eq_runE_of_kids (exts : List Bytes) (n : Bytes) (ks : List T)
    (ih : ∀ (Q : List Bytes) (fs : FS), mkKids exts Q fs ks = runE fs (opsKids exts Q ks)) (Q : List Bytes) (fs : FS) :
    mkTree exts Q fs (.mk n ks) = runE fs (opsTree exts Q (.mk n ks)) := by
  rw [mkTree, opsTree, runE]
  -- both sides take the same branch, and then inspect the same results
  by_cases hf : isFileNode exts n (!ks.isEmpty) = true
  · rw [if_pos hf, if_pos hf]
    dsimp only [List.map, EOp.toOp, runOps, FS.applyOp]
    cases fs.mkdirAll (key Q) with
    | mk fs1 e1 =>
      cases e1 with
      | some e => rfl
      | none =>
        dsimp only
        cases fs1.create (key (Q ++ [n])) with
        | mk fs2 e2 => cases e2 <;> rfl
  · rw [if_neg hf, if_neg hf]
    by_cases hk : ks.isEmpty = true
    · rw [if_pos hk, if_pos hk]
      dsimp only [List.map, EOp.toOp, runOps, FS.applyOp]
      cases fs.mkdirAll (key (Q ++ [n])) with
      | mk fs1 e1 => cases e1 <;> rfl
    · rw [if_neg hk, if_neg hk]
      exact ih (Q ++ [n]) fs

theorem mkKids_eq_runE (exts : List Bytes) (Q : List Bytes) : ∀ (ks : List T) (fs : FS),
    mkKids exts Q fs ks = runE fs (opsKids exts Q ks) := by
  intro ks
  induction ks using forest_induct generalizing Q with
  | nil => intros; simp [mkKids, opsKids, runE, runOps]
  | cons n sub ts ihs ihr =>
    intro fs
    -- on the right too, the first tree's operations run first and the rest only if they all succeed
    rw [mkKids, opsKids, runE, List.map_append, runOps_append]
    rw [← runE, ← mkTree_eq_runE_of_kids exts n sub ihs Q fs]
    cases mkTree exts Q fs (.mk n sub) with
    | mk fs1 e1 =>
      cases e1 with
      | some e => rfl
      | none => exact ihr Q fs1

theorem mkTree_eq_runE (exts : List Bytes) (Q : List Bytes) : ∀ (t : T) (fs : FS),
    mkTree exts Q fs t = runE fs (opsTree exts Q t)
  | .mk n ks, fs => mkTree_eq_runE_of_kids exts n ks (fun Q fs => mkKids_eq_runE exts Q ks fs) Q fs

theorem opsKids_append (exts : List Bytes) (Q : List Bytes) : ∀ (a b : List T),
    opsKids exts Q (a ++ b) = opsKids exts Q a ++ opsKids exts Q b
  | [], b => by simp [opsKids]
  | t :: a, b => by simp only [List.cons_append, opsKids, opsKids_append exts Q a b, List.append_assoc]

theorem mem_opsKids (exts : List Bytes) (Q : List Bytes) : ∀ (ks : List T) (op : EOp),
    op ∈ opsKids exts Q ks ↔ ∃ t ∈ ks, op ∈ opsTree exts Q t
  | [], op => by simp [opsKids]
  | t :: ts, op => by
    simp only [opsKids, List.mem_append, mem_opsKids exts Q ts op, List.mem_cons, exists_eq_or_imp]

theorem ordered_opsKids (exts : List Bytes) (Q : List Bytes) : ∀ (ks : List T), Ordered (opsKids exts Q ks) := by
  intro ks
  induction ks using forest_induct generalizing Q with
  | nil => rw [opsKids]; exact ordered_nil
  | cons n sub ts ihs ihr =>
    rw [opsKids]
    refine ordered_append ?_ (ihr Q)
    rcases opsTree_cases exts Q n sub with ⟨_, _, e⟩ | ⟨_, _, e⟩ | ⟨_, _, e⟩
    · -- `[.mk Q, .cr (Q ++ [n])]`: the `Create` is the second operation, after the `MkdirAll` of `dropLast (Q ++ [n]) = Q`
      rw [e]
      intro a c b hsplit
      cases a with
      | nil => cases hsplit
      | cons x a =>
        obtain ⟨rfl, hsplit⟩ := List.cons.inj hsplit
        cases a with
        | nil =>
          cases hsplit
          rw [List.dropLast_concat]
          exact List.mem_cons_self
        | cons y a =>
          obtain ⟨_, hsplit⟩ := List.cons.inj hsplit
          cases a <;> cases hsplit
    · -- `[.mk (Q ++ [n])]`: no `Create`
      rw [e]
      exact ordered_cons_mk ordered_nil
    · rw [e]
      exact ihs (Q ++ [n])

theorem ordered_opsTree (exts : List Bytes) (Q : List Bytes) (t : T) : Ordered (opsTree exts Q t) := by
  have := ordered_opsKids exts Q [t]
  rwa [opsKids, opsKids, List.append_nil] at this

/-- soundness of the plan: a `MkdirAll` goes through prefixes of `Q` and directory nodes only, a `Create` makes a
    file node -/
theorem ops_shape (exts : List Bytes) : ∀ (ks : List T) (Q : List Bytes), GoodList Q → AllGoodL ks →
    ∀ op ∈ opsKids exts Q ks,
      (∀ q, op = EOp.mk q → GoodList q ∧ ∀ i < q.length,
          (i < Q.length ∧ q.take (i + 1) = Q.take (i + 1)) ∨ (q.take (i + 1), false) ∈ pathsOf exts Q ks) ∧
      (∀ c, op = EOp.cr c → GoodList c ∧ (c, true) ∈ pathsOf exts Q ks) := by
  intro ks
  induction ks using forest_induct with
  | nil => intro _ _ _ op hop; simp [opsKids] at hop
  | cons n sub rest ihs ihr =>
    intro Q hQ hk op hop
    rw [AllGoodL, AllGoodT] at hk
    obtain ⟨⟨hn, hsub⟩, hrest⟩ := hk
    have hQn := goodList_snoc hQ hn
    -- the `MkdirAll` path of the node `n` itself: its prefixes are those of `Q`, and `Q ++ [n]`, a directory node
    have self (hf : isFileNode exts n (!sub.isEmpty) = false) {q : List Bytes} {i : Nat} (hi : i < (Q ++ [n]).length)
        (h : q.take (i + 1) = (Q ++ [n]).take (i + 1)) :
        (i < Q.length ∧ q.take (i + 1) = Q.take (i + 1)) ∨ (q.take (i + 1), false) ∈ pathsOf exts Q (.mk n sub :: rest) := by
      rw [h]
      rcases Nat.lt_succ_iff_lt_or_eq.mp (List.length_append ▸ hi) with hi' | rfl
      · exact Or.inl ⟨hi', List.take_append_of_le_length hi'⟩
      · exact Or.inr (mem_pathsOf_cons.mpr (Or.inl (by rw [List.take_length_add_append, hf]; rfl)))
    rw [opsKids, List.mem_append] at hop
    rcases hop with hop | hop
    · rcases opsTree_cases exts Q n sub with ⟨rfl, hf, e⟩ | ⟨rfl, hf, e⟩ | ⟨_, hf, e⟩
      · rw [e, List.mem_cons, List.mem_singleton] at hop
        rcases hop with rfl | rfl
        · exact ⟨fun q e => by cases e; exact ⟨hQ, fun i hi => Or.inl ⟨hi, rfl⟩⟩, nofun⟩
        · exact ⟨nofun, fun c e => by cases e; exact ⟨hQn, mem_pathsOf_cons.mpr (Or.inl (by rw [hf]))⟩⟩
      · rw [e, List.mem_singleton] at hop
        subst hop
        exact ⟨fun q e => by cases e; exact ⟨hQn, fun i hi => self hf hi rfl⟩, nofun⟩
      · rw [e] at hop
        obtain ⟨hmk, hcr⟩ := ihs (Q ++ [n]) hQn hsub op hop
        refine ⟨fun q e => ⟨(hmk q e).1, fun i hi => ?_⟩,
          fun c e => ⟨(hcr c e).1, mem_pathsOf_cons.mpr (Or.inr (Or.inl (hcr c e).2))⟩⟩
        rcases (hmk q e).2 i hi with ⟨hi', htk⟩ | hin
        · exact self hf hi' htk
        · exact Or.inr (mem_pathsOf_cons.mpr (Or.inr (Or.inl hin)))
    · obtain ⟨hmk, hcr⟩ := ihr Q hQ hrest op hop
      exact ⟨fun q e => ⟨(hmk q e).1, fun i hi =>
          ((hmk q e).2 i hi).imp_right fun hin => mem_pathsOf_cons.mpr (Or.inr (Or.inr hin))⟩,
        fun c e => ⟨(hcr c e).1, mem_pathsOf_cons.mpr (Or.inr (Or.inr (hcr c e).2))⟩⟩

theorem mem_opsTree_of_kids {exts : List Bytes} {Q : List Bytes} {n : Bytes} {sub : List T} {op : EOp}
    (h : op ∈ opsKids exts (Q ++ [n]) sub) : op ∈ opsTree exts Q (T.mk n sub) := by
  rcases opsTree_cases exts Q n sub with ⟨rfl, _⟩ | ⟨rfl, _⟩ | ⟨_, _, e⟩
  · simp [opsKids] at h
  · simp [opsKids] at h
  · rwa [e]

/-- completeness of the plan: every file node is created, every directory node lies on the way of some `MkdirAll`,
    and so does `Q` unless the forest is empty -/
theorem ops_cover (exts : List Bytes) : ∀ (ks : List T) (Q : List Bytes),
    (∀ c, (c, true) ∈ pathsOf exts Q ks → EOp.cr c ∈ opsKids exts Q ks) ∧
    (∀ x, (x, false) ∈ pathsOf exts Q ks → ∃ q, EOp.mk q ∈ opsKids exts Q ks ∧ x <+: q) ∧
    (ks ≠ [] → ∃ q, EOp.mk q ∈ opsKids exts Q ks ∧ Q <+: q) := by
  intro ks
  induction ks using forest_induct with
  | nil => intro Q; simp [pathsOf]
  | cons n sub rest ihs ihr =>
    intro Q
    obtain ⟨rcr, rmk, _⟩ := ihr Q
    obtain ⟨scr, smk, spre⟩ := ihs (Q ++ [n])
    -- the three claims for the first tree's own node
    have head : (isFileNode exts n (!sub.isEmpty) = true → EOp.cr (Q ++ [n]) ∈ opsTree exts Q (T.mk n sub)) ∧
        (isFileNode exts n (!sub.isEmpty) = false → ∃ q, EOp.mk q ∈ opsTree exts Q (T.mk n sub) ∧ Q ++ [n] <+: q) ∧
        ∃ q, EOp.mk q ∈ opsTree exts Q (T.mk n sub) ∧ Q <+: q := by
      rcases opsTree_cases exts Q n sub with ⟨rfl, hf, e⟩ | ⟨rfl, hf, e⟩ | ⟨hne, hf, e⟩
      · rw [e, hf]
        exact ⟨fun _ => List.mem_cons_of_mem _ List.mem_cons_self, nofun, Q, List.mem_cons_self, List.prefix_rfl⟩
      · rw [e, hf]
        exact ⟨nofun, fun _ => ⟨Q ++ [n], List.mem_cons_self, List.prefix_rfl⟩, Q ++ [n], List.mem_cons_self,
          List.prefix_append _ _⟩
      · rw [e, hf]
        obtain ⟨q, hq, hp⟩ := spre hne
        exact ⟨nofun, fun _ => ⟨q, hq, hp⟩, q, hq, (List.prefix_append _ _).trans hp⟩
    simp only [mem_pathsOf_cons, opsKids, List.mem_append, Prod.mk.injEq]
    refine ⟨?_, ?_, fun _ => ?_⟩
    · rintro c (⟨rfl, hf⟩ | hc | hc)
      · exact Or.inl (head.1 hf.symm)
      · exact Or.inl (mem_opsTree_of_kids (scr c hc))
      · exact Or.inr (rcr c hc)
    · rintro x (⟨rfl, hf⟩ | hx | hx)
      · obtain ⟨q, hq, hp⟩ := head.2.1 hf.symm
        exact ⟨q, Or.inl hq, hp⟩
      · obtain ⟨q, hq, hp⟩ := smk x hx
        exact ⟨q, Or.inl (mem_opsTree_of_kids hq), hp⟩
      · obtain ⟨q, hq, hp⟩ := rmk x hx
        exact ⟨q, Or.inr hq, hp⟩
    · obtain ⟨q, hq, hp⟩ := head.2.2
      exact ⟨q, Or.inl hq, hp⟩

theorem keys_of_ops (exts : List Bytes) (Q : List Bytes) (ks : List T) (hQ : GoodList Q) (hg : AllGoodL ks) :
    (∀ p, p ∈ mkPrefixes (opsKids exts Q ks) ↔
      (ks ≠ [] ∧ p ∈ prefixKeys Q) ∨ ∃ x, (x, false) ∈ pathsOf exts Q ks ∧ p = key x) ∧
    (∀ p, p ∈ crKeys (opsKids exts Q ks) ↔ ∃ c, (c, true) ∈ pathsOf exts Q ks ∧ p = key c) := by
  have shape := ops_shape exts ks Q hQ hg
  obtain ⟨ccr, cmk, cpre⟩ := ops_cover exts ks Q
  refine ⟨fun p => ⟨fun hp => ?_, ?_⟩, fun p => ⟨fun hp => ?_, ?_⟩⟩
  · obtain ⟨q, hq, hpq⟩ := (mem_mkPrefixes _ _).mp hp
    obtain ⟨i, hi, rfl⟩ := mem_prefixKeys.mp hpq
    rcases ((shape _ hq).1 q rfl).2 i hi with ⟨hi', htk⟩ | hin
    · exact Or.inl ⟨fun e => by simp [e, opsKids] at hq, mem_prefixKeys.mpr ⟨i, hi', by rw [htk]⟩⟩
    · exact Or.inr ⟨_, hin, rfl⟩
  · rintro (⟨hne, hpQ⟩ | ⟨x, hx, rfl⟩)
    · obtain ⟨q, hq, hp⟩ := cpre hne
      obtain ⟨x, hx, hxQ, rfl⟩ := exists_of_mem_prefixKeys hQ.2 hpQ
      exact mem_mkPrefixes_of_prefix hq (hxQ.trans hp) hx.1
    · obtain ⟨q, hq, hp⟩ := cmk x hx
      exact mem_mkPrefixes_of_prefix hq hp (pathsOf_shape exts ks Q hQ hg _ hx).1.1
  · obtain ⟨c, hc, rfl⟩ := (mem_crKeys _ _).mp hp
    exact ⟨c, ((shape _ hc).2 c rfl).2, rfl⟩
  · rintro ⟨c, hc, rfl⟩
    exact (mem_crKeys _ _).mpr ⟨c, ccr c hc, rfl⟩

theorem prefix_not_crKey (exts : List Bytes) (Q : List Bytes) (ks : List T) (hQ : GoodList Q) (hg : AllGoodL ks) {p : Bytes}
    (hp : p ∈ prefixKeys Q) : p ∉ crKeys (opsKids exts Q ks) := fun hc => by
  obtain ⟨c, hcin, rfl⟩ := ((keys_of_ops exts Q ks hQ hg).2 _).mp hc
  obtain ⟨hgc, k, _, tail, hshape⟩ := pathsOf_shape exts ks Q hQ hg _ hcin
  exact key_not_mem_prefixKeys hQ hgc hshape hp

section
variable {exts : List Bytes} {Q : List Bytes} {ks : List T} {fs : FS} (h : Fresh exts Q ks fs)
include h

theorem Fresh.planOK : PlanOK fs (opsKids exts Q ks) := by
  have shape := ops_shape exts ks Q h.goodQ h.good
  obtain ⟨dkey, ckey⟩ := keys_of_ops exts Q ks h.goodQ h.good
  refine ⟨fun q hq => ((shape _ hq).1 q rfl).1, fun c hc => ((shape _ hc).2 c rfl).1, ?_, ?_, ?_⟩
  · intro p hp
    rcases (dkey p).mp hp with ⟨_, hpQ⟩ | ⟨x, hx, rfl⟩
    · exact h.notFileQ p hpQ
    · intro n
      simp [h.absent _ hx]
  · intro p hp hc
    obtain ⟨c, hcin, rfl⟩ := (ckey p).mp hc
    rcases (dkey _).mp hp with ⟨_, hpQ⟩ | ⟨x, hx, hpx⟩
    · exact prefix_not_crKey exts Q ks h.goodQ h.good hpQ hc
    -- a directory node's key is no file node's: node keys are pairwise different
    · have := inj_of_nodup_map (pathsOf_nodup exts ks Q h.goodQ h.good h.distinct) hcin hx hpx
      simp at this
  · intro p hp
    obtain ⟨c, hcin, rfl⟩ := (ckey p).mp hp
    exact h.absent _ hcin

-- a schedule `r`: exactly the forest's operations as members (in any order, repeated or not), every `Create` after its
-- parent's `MkdirAll`
variable (r : List EOp) (hmem : ∀ op, op ∈ r ↔ op ∈ opsKids exts Q ks) (hord : Ordered r)
include hmem hord

theorem Fresh.schedule_run : ∃ s, runE fs r = (s, none) ∧ ∀ p, s.lookup p = stateAfter fs (opsKids exts Q ks) p := by
  obtain ⟨s, hrun, hchar⟩ := h.planOK.run r (fun op hop => (hmem op).mp hop) hord
  exact ⟨s, hrun, fun p => (hchar p).trans (stateAfter_congr fs _ _ hmem p)⟩

theorem Fresh.schedule_exact : ∃ s, runE fs r = (s, none) ∧ Exact exts Q ks fs s := by
  obtain ⟨s, hrun, hs⟩ := h.schedule_run r hmem hord
  obtain ⟨dkey, ckey⟩ := keys_of_ops exts Q ks h.goodQ h.good
  have dir : ∀ p ∈ mkPrefixes (opsKids exts Q ks), s.lookup p = some .dir := fun p hp =>
    (hs p).trans (h.planOK.dir_after (fun _ h => h) hp)
  refine ⟨s, hrun, ⟨?_, ?_, ?_, ?_⟩⟩
  · rintro ⟨x, b⟩ he
    cases b with
    | true => simp [hs, stateAfter, (ckey _).mpr ⟨x, he, rfl⟩, kindOfFlag]
    | false => exact dir _ ((dkey _).mpr (Or.inr ⟨x, he, rfl⟩))
  · intro i hi k hk
    simp [hs, stateAfter, prefix_not_crKey exts Q ks h.goodQ h.good (mem_prefixKeys.mpr ⟨i, hi, rfl⟩), hk]
  · intro hne i hi _
    exact dir _ ((dkey _).mpr (Or.inl ⟨hne, mem_prefixKeys.mpr ⟨i, hi, rfl⟩⟩))
  · intro p hp hpre
    rw [hs]
    refine stateAfter_of_not_mem (fun hc => ?_) (fun hm => ?_)
    · obtain ⟨c, hcin, hpc⟩ := (ckey p).mp hc
      exact hp _ hcin hpc
    · rcases (dkey p).mp hm with ⟨_, hpQ⟩ | ⟨x, hx, hpx⟩
      · obtain ⟨i, hi, hpi⟩ := mem_prefixKeys.mp hpQ
        exact hpre i hi hpi
      · exact hp _ hx hpx
end

theorem mkKids_exact (exts : List Bytes) : ∀ (ks : List T) (Q : List Bytes) (fs : FS),
    GoodList Q → AllGoodL ks → DistinctL ks →
    (∀ i < Q.length, notFile fs (key (Q.take (i + 1)))) →
    (∀ e ∈ pathsOf exts Q ks, fs.lookup (key e.1) = none) →
    (mkKids exts Q fs ks).2 = none ∧ Exact exts Q ks fs (mkKids exts Q fs ks).1
  := fun ks Q fs hQ hg hd hnf habs => by
    obtain ⟨s, hrun, hex⟩ := Fresh.schedule_exact ⟨hQ, hg, hd, forall_mem_prefixKeys.mpr hnf, habs⟩ _ (fun _ => Iff.rfl)
      (ordered_opsKids exts Q ks)
    rw [mkKids_eq_runE, hrun]
    exact ⟨rfl, hex⟩

end Gtree
