/-
  `LawfulBEq UInt8` has no shortcut instance in core (`Nat`, `Char`, `Bool` have one): the search tries Std's two
  order-based instances first, which fail only after unfolding `decide (a = b) =?= decide (a ≤ b ∧ b ≤ a)` several
  times, and reaches `instLawfulBEq`, the answer, last.  Every `Decidable (p ∈ l)` over byte strings and every `simp`
  step with `beq_iff_eq` on bytes pays that search again.  With the two instances tried last the search finds the same
  term at once (compare `example : LawfulBEq UInt8 := inferInstance` under `trace.profiler` with and without this file).
  `ReflBEq` / `EquivBEq` on bytes (`BEq.rfl`, `BEq.comm`) walk the same order classes through `Std.LawfulBEqOrd.equivBEq`;
  core's own `instEquivBEqOfLawfulBEq` has priority `low`, hence the 5.
-/
attribute [instance low] Std.LawfulBEqOrd.lawfulBEq Std.instLawfulBEqOfLawfulOrderBEqOfIsPartialOrder
attribute [instance 5] Std.LawfulBEqOrd.equivBEq Std.instEquivBEqOfLawfulOrderBEqOfIsPreorder
