import Gtree.Lemmas.ParseDoc
import Gtree.Lemmas.Build
/-
  The rows of a spelled item list go through the generator while other workers use the same parser: before
  every row its state may have changed, within what parsing rows of the notation does to it (`Evolves`).
-/
namespace Gtree

/-- the state of the shared parser stays within what the notation produces -/
structure PState.Within (s : Spelling) (p : PState) : Prop where
  inv : PInv s p
  sharp : s.sharp = false → p.sharp = false

theorem SharpInv.sharp_off {s : Spelling} {p : PState} {its : List (Nat × Bytes)} (h : SharpInv s p its)
    (hs : s.sharp = false) : p.sharp = false := by
  simpa [SharpInv, hs] using h

/-- what other workers' parse steps can do to the shared parser between two rows of this worker -/
structure Evolves (s : Spelling) (p q : PState) : Prop where
  within : q.Within s
  learnt : q.spaces = 0 → p.spaces = 0
  sticky : p.sharp = true → q.sharp = true

theorem Evolves.refl (s : Spelling) (p : PState) (h : p.Within s) : Evolves s p p := ⟨h, id, id⟩

theorem Evolves.trans {s : Spelling} {p q r : PState} (h1 : Evolves s p q) (h2 : Evolves s q r) : Evolves s p r :=
  ⟨h2.within, fun h => h1.learnt (h2.learnt h), fun h => h2.sticky (h1.sticky h)⟩

theorem SharpInv.evolves {s : Spelling} {p q : PState} {its : List (Nat × Bytes)} (h : SharpInv s p its)
    (he : Evolves s p q) : SharpInv s q its := by
  unfold SharpInv at h ⊢
  split
  · rename_i hs
    rw [if_pos hs] at h
    exact h.imp he.sticky id
  · rename_i hs
    exact he.within.sharp (by simpa using hs)

theorem SharpInv.of_items (s : Spelling) (p : PState) (f : List T) (hp : s.sharp = false → p.sharp = false) :
    SharpInv s p (items 1 f) := by
  unfold SharpInv
  split
  · right
    intro h n r he
    cases f with
    | nil => simp [items] at he
    | cons t ts =>
      cases t with
      | mk n' ks =>
        simp only [items, List.cons_append, List.cons.injEq, Prod.mk.injEq] at he
        exact he.1.1.symm
  · rename_i hs
    exact hp (by simpa using hs)

/-- the generator over rows, the shared parser being changed (by `hv`) before every row -/
def genRowsHavoc (hv : Nat → PState → PState) : Nat → GState → List Bytes → GState × Option GErr
  | _, g, [] => (g, none)
  | j, g, r :: rs =>
    match genStep { g with p := hv j g.p } r with
    | .error e => (g, some e)
    | .ok g' => genRowsHavoc hv (j + 1) g' rs

theorem genRowsHavoc_id (rows : List Bytes) (j : Nat) (g : GState) :
    genRowsHavoc (fun _ p => p) j g rows = genRows g rows := by
  induction rows generalizing j g with
  | nil => rfl
  | cons r rs ih =>
    simp only [genRowsHavoc, genRows]
    cases genStep g r with
    | error e => rfl
    | ok g' => exact ih (j + 1) g'

theorem genRowsHavoc_blanks (hv : Nat → PState → PState) (s : Spelling) (hhv : ∀ j p, p.Within s → Evolves s p (hv j p))
    (bs : List Bytes) (j : Nat) (g : GState) (rows : List Bytes) (hb : ∀ b ∈ bs, isBlank b = true) (hw : g.p.Within s) :
    ∃ q, Evolves s g.p q ∧ genRowsHavoc hv j g (bs ++ rows) = genRowsHavoc hv (j + bs.length) { g with p := q } rows := by
  induction bs generalizing j g with
  | nil => exact ⟨g.p, Evolves.refl s g.p hw, rfl⟩
  | cons b bs ih =>
    have he := hhv j g.p hw
    have hstep : genStep { g with p := hv j g.p } b = .ok { g with p := hv j g.p } :=
      genStep_blank_row _ b (hb b List.mem_cons_self)
    obtain ⟨q, hq, hrest⟩ := ih (j + 1) { g with p := hv j g.p } (fun x hx => hb x (List.mem_cons_of_mem _ hx)) he.within
    refine ⟨q, he.trans hq, ?_⟩
    simp only [List.cons_append, genRowsHavoc, hstep, hrest, List.length_cons, Nat.add_assoc, Nat.add_comm 1]

theorem genRows_spelled_havoc (s : Spelling)
    (hc : s.c = sp ∨ s.c = tab) (hunit : 1 ≤ s.unit)
    (hbul : ∀ i, s.bullet i = hy ∨ s.bullet i = ast ∨ s.bullet i = pls)
    (hblank : ∀ i, ∀ b ∈ s.blanks i, isBlank b = true)
    (hv : Nat → PState → PState) (hhv : ∀ j p, p.Within s → Evolves s p (hv j p))
    (its : List (Nat × Bytes)) (i j : Nat) (g r : GState)
    (hits : ∀ it ∈ its, 1 ≤ it.1 ∧ NameOk s it.1 it.2)
    (hw : g.p.Within s) (hfio : g.p.spaces = 0 → FIO s its) (hsharp : SharpInv s g.p its)
    (hadd : addItems g its = .ok r) :
    ∃ p', genRowsHavoc hv j g (spellRows s i its) = ({ r with p := p' }, none) ∧ p'.Within s := by
  induction its generalizing i j g r with
  | nil => cases hadd; exact ⟨g.p, rfl, hw⟩
  | cons it rest ih =>
    obtain ⟨h, n⟩ := it
    obtain ⟨hh, hname⟩ := hits (h, n) List.mem_cons_self
    -- the blank rows before the item row, then one more change of the parser
    obtain ⟨q0, hq0, hbl⟩ := genRowsHavoc_blanks hv s hhv (s.blanks i) j g (rowOf s i h n :: spellRows s (i + 1) rest)
      (hblank i) hw
    have hq := hq0.trans (hhv (j + (s.blanks i).length) q0 hq0.within)
    obtain ⟨p', hparse, hinv', hfio', hsharp'⟩ :=
      parse_itemRow s _ i h n rest hc hunit (hbul i) hh hname hq.within.inv (fun h0 => hfio (hq.learnt h0)) (hsharp.evolves hq)
    simp only [addItems] at hadd
    cases hai : addItem g h n [] with
    | error e => rw [hai] at hadd; cases hadd
    | ok g1 =>
      simp only [hai] at hadd
      have hstep : genStep { g with p := hv (j + (s.blanks i).length) q0 } (rowOf s i h n) = .ok { g1 with p := p' } := by
        rw [genStep_of_parse { g with p := hv (j + (s.blanks i).length) q0 } (rowOf s i h n) p' h n hparse]
        exact (addItem_with_p g p' h n _).trans (by rw [addItem_row g g1 h n [] (rowOf s i h n) hai])
      obtain ⟨p'', hrun, hw''⟩ := ih (i + 1) (j + (s.blanks i).length + 1) { g1 with p := p' } { r with p := p' }
        (fun it hit => hits it (List.mem_cons_of_mem _ hit)) ⟨hinv', hsharp'.sharp_off⟩ hfio' hsharp'
        (by rw [addItems_with_p, hadd])
      exact ⟨p'', by simp only [spellRows, hbl, genRowsHavoc, hstep, hrun], hw''⟩

end Gtree
