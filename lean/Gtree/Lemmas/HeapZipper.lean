import Gtree.Lemmas.HeapBuilder
import Gtree.Lemmas.HeapRepr
import Gtree.Lemmas.GenStep
/-
  The step of the tree builder on the translated code (`stack.dfs`) refines the step of the model's zipper
  (`Model/Generate.lean`: `dfs` = `closeTo` then `descend`): if heap and stack represent a zipper — every open node
  holds its frame's closed children to the left and right of its open child, all pointers different — then after `dfs`
  with a fresh node they represent the model's next zipper, and `dfs` returns false exactly when the model's step is
  undefined.  Composed over the rows of a root block, the steps leave the root the model builds in the heap.
-/
namespace Gtree.SrcH
open Gtree Gtree.Go

/-- the heap side of a frame: the open node and the pointers of its closed children left and right of the open child -/
structure HFrame where
  p : Ptr
  L : List Ptr
  R : List Ptr

def parentOf : List HFrame → Ptr
  | [] => 0
  | g :: _ => g.p

/-- heap and frames (deepest first) represent the zipper; `oc` is the open child of the first frame -/
def ZR (h : Heap) : Option Ptr → List HFrame → Zipper → Prop
  | _, [], [] => True
  | _, [], _ :: _ => False
  | _, _ :: _, [] => False
  | oc, fr :: hz, f :: z =>
      fr.p ≠ 0 ∧ (h fr.p).name = f.name ∧ (h fr.p).hierarchy = ((z.length + 1 : Nat) : Int) ∧
      (h fr.p).parent = parentOf hz ∧
      ReprKids h f.left fr.L fr.p (z.length + 2) ∧ ReprKids h f.right fr.R fr.p (z.length + 2) ∧
      (h fr.p).children = (match oc with | none => fr.L ++ fr.R | some c => fr.L ++ c :: fr.R) ∧
      ZR h (some fr.p) hz z

/-- all pointers of the representation -/
def zPtrs (h : Heap) : List HFrame → Zipper → List Ptr
  | [], _ => []
  | _ :: _, [] => []
  | fr :: hz, f :: z => fr.p :: (ptrsKids h f.left fr.L ++ ptrsKids h f.right fr.R) ++ zPtrs h hz z

theorem ZR.tail {h : Heap} {oc : Option Ptr} {fr : HFrame} {hz : List HFrame} {f : Frame} {z : Zipper}
    (hr : ZR h oc (fr :: hz) (f :: z)) : ZR h (some fr.p) hz z := hr.2.2.2.2.2.2.2

theorem ZR_induct {h : Heap} {motive : (oc : Option Ptr) → (hz : List HFrame) → (z : Zipper) → ZR h oc hz z → Prop}
    (nil : ∀ oc hr, motive oc [] [] hr)
    (cons : ∀ oc fr hz f z hr (hrest : ZR h (some fr.p) hz z), motive (some fr.p) hz z hrest →
      motive oc (fr :: hz) (f :: z) hr) :
    ∀ (oc : Option Ptr) (hz : List HFrame) (z : Zipper) (hr : ZR h oc hz z), motive oc hz z hr := by
  intro oc hz
  induction hz generalizing oc with
  | nil =>
    rintro (_ | _) hr
    · exact nil oc hr
    · exact False.elim hr
  | cons fr hz ih =>
    rintro (_ | ⟨f, z⟩) hr
    · exact False.elim hr
    · exact cons oc fr hz f z hr hr.tail (ih _ z hr.tail)

theorem ZR_congr {h h' : Heap} : ∀ (hz : List HFrame) (z : Zipper) (oc : Option Ptr),
    (∀ q ∈ zPtrs h hz z, h' q = h q) → ZR h oc hz z → ZR h' oc hz z ∧ zPtrs h' hz z = zPtrs h hz z := by
  intro hz z oc hq hr
  induction oc, hz, z, hr using ZR_induct with
  | nil => exact ⟨trivial, rfl⟩
  | cons oc fr hz f z hr _ ih =>
    rw [zPtrs] at hq
    obtain ⟨h0, hn, hl, hpp, hL, hR, hch, -⟩ := hr
    have hp : h' fr.p = h fr.p := hq fr.p List.mem_cons_self
    have hqK : ∀ q ∈ ptrsKids h f.left fr.L ++ ptrsKids h f.right fr.R, h' q = h q := fun q hq' =>
      hq q (List.mem_append_left _ (List.mem_cons_of_mem _ hq'))
    have hqL : ∀ q ∈ ptrsKids h f.left fr.L, h' q = h q := fun q hq' => hqK q (List.mem_append_left _ hq')
    have hqR : ∀ q ∈ ptrsKids h f.right fr.R, h' q = h q := fun q hq' => hqK q (List.mem_append_right _ hq')
    obtain ⟨ih1, ih2⟩ := ih fun q hq' => hq q (List.mem_append_right _ hq')
    simp only [ZR, hp, zPtrs, ptrsKids_congr _ _ hqL, ptrsKids_congr _ _ hqR, ih2]
    exact ⟨⟨h0, hn, hl, hpp, ReprKids_congr _ _ _ _ hqL hL, ReprKids_congr _ _ _ _ hqR hR, hch, ih1⟩, trivial⟩

/-- the top frame is always of the form `left, []` (after a root row, a pop or an attach) -/
def TopOk : List HFrame → Zipper → Prop
  | fr :: _, f :: _ => f.right = [] ∧ fr.R = []
  | _, _ => True

theorem ZR_closed (h : Heap) (fr : HFrame) (hz : List HFrame) (f : Frame) (z : Zipper)
    (hfr : f.right = []) (hR : fr.R = []) :
    ZR h none (fr :: hz) (f :: z) ↔
      Repr h f.close fr.p (parentOf hz) (z.length + 1) ∧ (h fr.p).children = fr.L ∧ ZR h (some fr.p) hz z := by
  simp only [ZR, Frame.close, Repr, hfr, hR, List.append_nil, ReprKids_nil, true_and]
  constructor
  · rintro ⟨h0, hn, hl, hp, hL, hc, hrest⟩
    exact ⟨⟨h0, hn, hl, hp, hc ▸ hL⟩, hc, hrest⟩
  · rintro ⟨⟨h0, hn, hl, hp, hL⟩, hc, hrest⟩
    exact ⟨h0, hn, hl, hp, hc ▸ hL, hc, hrest⟩

theorem zPtrs_closed (h : Heap) (fr : HFrame) (hz : List HFrame) (f : Frame) (z : Zipper)
    (hfr : f.right = []) (hR : fr.R = []) (hc : (h fr.p).children = fr.L) :
    zPtrs h (fr :: hz) (f :: z) = ptrs h f.close fr.p ++ zPtrs h hz z := by
  simp [zPtrs, Frame.close, ptrs, hfr, hR, hc, ptrsKids]

@[simp] theorem parentOf_cons (g : HFrame) (hz : List HFrame) : parentOf (g :: hz) = g.p := rfl

theorem ZR_upOne_iff (h : Heap) (fr gr : HFrame) (hz : List HFrame) (f g : Frame) (z : Zipper)
    (hfr : f.right = []) (hR : fr.R = []) :
    ZR h none (fr :: gr :: hz) (f :: g :: z) ↔
      ZR h none ({ p := gr.p, L := gr.L ++ fr.p :: gr.R, R := [] } :: hz) (upOne (f :: g :: z)) ∧
      (h fr.p).children = fr.L ∧ gr.L.length = g.left.length := by
  rw [ZR_closed h fr _ f _ hfr hR, upOne, ZR_closed h _ hz _ z rfl rfl]
  simp only [ZR, parentOf_cons, List.length_cons]
  constructor
  · rintro ⟨hcl, hc, g0, gn, gl, gp, gL, gR, gch, hrest⟩
    have hlen := ReprKids_length h _ _ _ _ gL
    refine ⟨⟨?_, gch, hrest⟩, hc, hlen⟩
    rw [Frame.close, Repr, gch, List.append_nil, ReprKids_append_iff h hlen, ReprKids_cons]
    exact ⟨g0, gn, gl, gp, gL, hcl, gR⟩
  · rintro ⟨⟨hcl, gch, hrest⟩, hc, hlen⟩
    rw [Frame.close, Repr, gch, List.append_nil, ReprKids_append_iff h hlen, ReprKids_cons] at hcl
    obtain ⟨g0, gn, gl, gp, gL, hcl, gR⟩ := hcl
    exact ⟨hcl, hc, g0, gn, gl, gp, gL, gR, gch, hrest⟩

theorem zPtrs_upOne (h : Heap) (fr gr : HFrame) (hz : List HFrame) (f g : Frame) (z : Zipper)
    (hfr : f.right = []) (hR : fr.R = []) (hc : (h fr.p).children = fr.L) (hlen : gr.L.length = g.left.length) :
    (zPtrs h ({ p := gr.p, L := gr.L ++ fr.p :: gr.R, R := [] } :: hz) (upOne (f :: g :: z))).Perm
      (zPtrs h (fr :: gr :: hz) (f :: g :: z)) := by
  rw [zPtrs_closed h fr _ f _ hfr hR hc]
  simp only [upOne, zPtrs, ptrsKids_append h _ _ _ _ hlen, ptrsKids, List.append_nil, List.cons_append, List.append_assoc]
  -- the subtree of the closed frame moves as a block from in front of the parent's pointers to between its left and right
  exact List.perm_append_comm_assoc (gr.p :: ptrsKids h g.left gr.L) (ptrs h f.close fr.p) _

theorem ZR_upOne (h : Heap) (fr gr : HFrame) (hz : List HFrame) (f g : Frame) (z : Zipper)
    (hfr : f.right = []) (hR : fr.R = []) (hr : ZR h none (fr :: gr :: hz) (f :: g :: z)) :
    ZR h none ({ p := gr.p, L := gr.L ++ fr.p :: gr.R, R := [] } :: hz) (upOne (f :: g :: z)) ∧
    (zPtrs h ({ p := gr.p, L := gr.L ++ fr.p :: gr.R, R := [] } :: hz) (upOne (f :: g :: z))).Perm
      (zPtrs h (fr :: gr :: hz) (f :: g :: z)) := by
  obtain ⟨h1, hc, hlen⟩ := (ZR_upOne_iff h fr gr hz f g z hfr hR).mp hr
  exact ⟨h1, zPtrs_upOne h fr gr hz f g z hfr hR hc hlen⟩

theorem ZR_upN (h : Heap) : ∀ (d : Nat) (hz : List HFrame) (z : Zipper), TopOk hz z → ZR h none hz z → d < hz.length →
    ∃ hz', ZR h none hz' (upN d z) ∧ TopOk hz' (upN d z) ∧ hz'.map (·.p) = (hz.drop d).map (·.p) ∧
      (zPtrs h hz' (upN d z)).Perm (zPtrs h hz z) ∧ (upN d z).length = z.length - d ∧ hz'.length = hz.length - d := by
  intro d
  induction d with
  | zero => intro hz z ht hr _; exact ⟨hz, hr, ht, rfl, List.Perm.refl _, rfl, rfl⟩
  | succ d ih =>
    intro hz z ht hr hd
    rcases hz with _ | ⟨fr, _ | ⟨gr, hz⟩⟩
    · cases hd
    · exact absurd hd (by simp)
    rcases z with _ | ⟨f, _ | ⟨g, z⟩⟩
    · exact False.elim hr
    · exact False.elim hr.tail
    obtain ⟨h1, hp1⟩ := ZR_upOne h fr gr hz f g z ht.1 ht.2 hr
    have ht1 : TopOk ({ p := gr.p, L := gr.L ++ fr.p :: gr.R, R := [] } :: hz) (upOne (f :: g :: z)) := And.intro rfl rfl
    obtain ⟨hz', hr', ht', hmap, hperm, hlen, hlen2⟩ := ih _ _ ht1 h1 (Nat.lt_of_succ_lt_succ hd)
    exact ⟨hz', hr', ht', by rw [hmap, List.drop_succ_cons, List.map_drop, List.map_drop]; rfl, hperm.trans hp1,
      by rw [upN, hlen]; exact (Nat.add_sub_add_right _ 1 d).symm, by rw [hlen2]; exact (Nat.add_sub_add_right _ 1 d).symm⟩

theorem popTo_levels (h : Heap) (k : Nat) : ∀ (hz : List HFrame) (z : Zipper) (oc : Option Ptr), ZR h oc hz z →
    popTo h (k : Int) (hz.map (·.p)) =
      (if 2 ≤ k ∧ k - 1 ≤ z.length then
        (match hz.drop (z.length - (k - 1)) with
         | [] => none
         | fr :: rest => some (fr.p, rest.map (·.p)))
       else none) := by
  intro hz z oc hr
  induction oc, hz, z, hr using ZR_induct with
  | nil => rw [List.drop_nil]; exact (ite_self none).symm
  | cons oc fr hz f z hr _ ih =>
    obtain ⟨-, -, hl, -⟩ := hr
    rw [List.map_cons, popTo, hl, ih, List.length_cons]
    by_cases hk : k = z.length + 2
    · -- `k` is one above this frame's level: `popTo` stops here, and no frame is dropped
      subst hk
      rw [if_pos (Int.natCast_succ _), if_pos ⟨Nat.le_add_left 2 _, Nat.le_refl _⟩,
        show z.length + 1 - (z.length + 2 - 1) = 0 from Nat.sub_self _]
      rfl
    · -- otherwise `popTo` goes on with the frames below, of which one less is dropped
      rw [if_neg fun e => hk (Int.ofNat_inj.mp (e.trans (Int.natCast_succ _).symm))]
      by_cases h2 : 2 ≤ k ∧ k - 1 ≤ z.length
      · rw [if_pos h2, if_pos ⟨h2.1, Nat.le_succ_of_le h2.2⟩, Nat.succ_sub h2.2, List.drop_succ_cons]
      · have h3 : ¬(2 ≤ k ∧ k - 1 ≤ z.length + 1) := fun h3 => (Nat.le_succ_iff.mp h3.2).elim
          (fun hle => h2 ⟨h3.1, hle⟩) fun e => hk ((Nat.sub_eq_iff_eq_add (Nat.le_of_succ_le h3.1)).mp e)
        rw [if_neg h2, if_neg h3]

theorem split_found (h : Heap) (x : Bytes) : ∀ (ts : List T) (cs : List Ptr) (par : Ptr) (lvl : Nat),
    ReprKids h ts cs par lvl →
    (match splitAtName x ts with
     | some (l, t', r) => ∃ Lc c' Rc, cs = Lc ++ c' :: Rc ∧ ReprKids h l Lc par lvl ∧ Repr h t' c' par lvl ∧
         ReprKids h r Rc par lvl ∧ childNamed h x cs = c' ∧ c' ≠ 0
     | none => childNamed h x cs = 0) := by
  intro ts
  induction ts with
  | nil => intro cs par lvl hr; rw [ReprKids] at hr; subst hr; rfl
  | cons t ts ih =>
    intro cs par lvl hr
    rw [ReprKids] at hr
    obtain ⟨c, cs', rfl, hrc, hrs⟩ := hr
    obtain ⟨n, ks⟩ := t
    obtain ⟨hc0, (hname : _ = (T.mk n ks).name), -⟩ := id hrc
    have ih := ih cs' par lvl hrs
    rw [splitAtName, childNamed_cons, hname]
    cases hx : (T.mk n ks).name == x with
    | true => exact ⟨[], c, cs', rfl, rfl, hrc, hrs, rfl, hc0⟩
    | false =>
      -- the search goes on behind the first child, on both sides
      revert ih
      cases splitAtName x ts with
      | none => exact id
      | some tr =>
        obtain ⟨l, t', r⟩ := tr
        rintro ⟨Lc, c', Rc, rfl, hl, ht, hr', hcn, hc'⟩
        exact ⟨c :: Lc, c', Rc, rfl, (ReprKids_cons h _ l c Lc par lvl).mpr ⟨hrc, hl⟩, ht, hr', hcn, hc'⟩

theorem ZR_attach (h : Heap) (fr : HFrame) (hz : List HFrame) (f : Frame) (z : Zipper) (c : Ptr) (x : Bytes)
    (hfr : f.right = []) (hR : fr.R = []) (hr : ZR h none (fr :: hz) (f :: z))
    (hnd : (zPtrs h (fr :: hz) (f :: z)).Nodup)
    (hc0 : c ≠ 0) (hcf : c ∉ zPtrs h (fr :: hz) (f :: z)) (hcn : (h c).name = x)
    (hcl : (h c).hierarchy = ((z.length + 2 : Nat) : Int)) (hcc : (h c).children = []) :
    ∃ h' hz', attach h c fr.p (hz.map (·.p)) = (h', (hz'.map (·.p)).reverse, true) ∧
      ZR h' none hz' (descend x (f :: z)) ∧ TopOk hz' (descend x (f :: z)) ∧
      (zPtrs h' hz' (descend x (f :: z))).Nodup ∧
      (∀ q, q ∈ zPtrs h' hz' (descend x (f :: z)) → q ∈ zPtrs h (fr :: hz) (f :: z) ∨ q = c) ∧
      (∀ q, q ∉ zPtrs h (fr :: hz) (f :: z) → q ≠ c → h' q = h q) ∧
      (hz'.map (·.p)).getLast? = ((fr :: hz).map (·.p)).getLast? := by
  obtain ⟨p, L, R⟩ := fr
  obtain ⟨name, left, right⟩ := f
  simp only at hfr hR
  subst hfr hR
  have hr0 := hr
  simp only [ZR, List.append_nil] at hr0
  obtain ⟨h0, hn, hl, hpp, hL, -, hch, hrest⟩ := hr0
  have hsplit := split_found h x left L p (z.length + 2) hL
  simp only [descend, List.append_nil]
  unfold attach
  rw [hcn, hch]
  cases hs : splitAtName x left with
  | some tr =>
    -- the child exists: nothing is written; re-opening it is `ZR_upOne_iff` read backwards
    obtain ⟨l, ⟨n', ks'⟩, r⟩ := tr
    simp only [hs] at hsplit ⊢
    obtain ⟨Lc, c', Rc, rfl, hl', -, -, hcn', hc'0⟩ := hsplit
    rw [hcn', if_pos (by simpa using hc'0)]
    obtain rfl := (splitAtName_spec x _ _ _ _ hs).1
    have hlen := ReprKids_length h _ _ _ _ hl'
    have ho := (ZR_upOne_iff h ⟨c', (h c').children, []⟩ ⟨p, Lc, Rc⟩ hz ⟨n', ks', []⟩ ⟨name, l, r⟩ z rfl rfl).mpr
      ⟨by simpa [upOne, Frame.close] using hr, rfl, hlen⟩
    have hp := zPtrs_upOne h ⟨c', (h c').children, []⟩ ⟨p, Lc, Rc⟩ hz ⟨n', ks', []⟩ ⟨name, l, r⟩ z rfl rfl rfl hlen
    simp only [upOne, Frame.close, List.append_nil] at hp
    -- the heap is `h`; the conjuncts in order: the stack, `ZR`, `TopOk`, `Nodup`, no new pointer, no write, the bottom
    exact ⟨h, _, by simp, ho, ⟨rfl, rfl⟩, hp.symm.nodup_iff.mpr hnd, fun q hq => Or.inl (hp.symm.mem_iff.mp hq),
      fun _ _ _ => rfl, by simp [List.getLast?_cons_cons]⟩
  | none =>
    -- the new node becomes the last child: two cells are written, both outside the closed subtrees and the frames below
    simp only [hs] at hsplit ⊢
    rw [hsplit, if_neg (by simp)]
    have hzp0 : zPtrs h (⟨p, L, []⟩ :: hz) (⟨name, left, []⟩ :: z) = p :: (ptrsKids h left L ++ zPtrs h hz z) := by
      simp [zPtrs, ptrsKids]
    rw [hzp0] at hnd hcf ⊢
    simp only [List.nodup_cons, List.mem_cons, not_or] at hnd hcf
    have hcell := setParent_addChild_apply h p c hcf.1
    generalize Node.setParent (Node.addChild h p c) c p = h' at hcell ⊢
    have hag : ∀ q ∈ ptrsKids h left L ++ zPtrs h hz z, h' q = h q := fun q hq => by
      rw [hcell, if_neg (fun (e : q = c) => hcf.2 (e ▸ hq)), if_neg (fun (e : q = p) => hnd.1 (e ▸ hq))]
    have hagL : ∀ q ∈ ptrsKids h left L, h' q = h q := fun q hq => hag q (List.mem_append_left _ hq)
    obtain ⟨hrest', hzp'⟩ := ZR_congr hz z (some p) (fun q hq => hag q (List.mem_append_right _ hq)) hrest
    have hpc : h' p = { (h p) with children := L ++ [c] } := by rw [hcell, if_neg (Ne.symm hcf.1), if_pos rfl, hch]
    have hcc' : h' c = { (h c) with parent := p } := by rw [hcell, if_pos rfl]
    have hzp : zPtrs h' (⟨c, [], []⟩ :: ⟨p, L, []⟩ :: hz) (⟨x, [], []⟩ :: ⟨name, left, []⟩ :: z) =
        c :: p :: (ptrsKids h left L ++ zPtrs h hz z) := by
      simp [zPtrs, ptrsKids, ptrsKids_congr _ _ hagL, hzp']
    refine ⟨h', ⟨c, [], []⟩ :: ⟨p, L, []⟩ :: hz, by simp, ?_, ⟨rfl, rfl⟩, ?_, ?_, ?_, by simp [List.getLast?_cons_cons]⟩
    · simp only [ZR, ReprKids_nil, hpc, hcc', List.nil_append, List.length_cons, parentOf_cons, true_and]
      exact ⟨hc0, hcn, by rw [hcl], hcc, h0, hn, hl, hpp, ReprKids_congr _ _ _ _ hagL hL, hrest'⟩
    · rw [hzp]; exact List.nodup_cons.mpr ⟨fun hm => (List.mem_cons.mp hm).elim hcf.1 hcf.2, List.nodup_cons.mpr hnd⟩
    · intro q hq; rw [hzp] at hq; exact (List.mem_cons.mp hq).symm
    · intro q hq hqc
      rw [hcell, if_neg hqc, if_neg (fun e => hq (by simp [e]))]

theorem getLast?_drop_of_lt {α} (l : List α) {d : Nat} (hd : d < l.length) : (l.drop d).getLast? = l.getLast? := by
  rw [List.getLast?_drop, if_neg (Nat.not_le.mpr hd)]

theorem ZR_len (h : Heap) : ∀ (hz : List HFrame) (z : Zipper) (oc : Option Ptr), ZR h oc hz z → hz.length = z.length := by
  intro hz z oc hr
  induction oc, hz, z, hr using ZR_induct with
  | nil => rfl
  | cons oc fr hz f z _ _ ih => rw [List.length_cons, List.length_cons, ih]

theorem ZR_ne (h : Heap) : ∀ (hz : List HFrame) (z : Zipper) (oc : Option Ptr), ZR h oc hz z →
    ∀ p ∈ hz.map (·.p), p ≠ 0 := by
  intro hz z oc hr
  induction oc, hz, z, hr using ZR_induct with
  | nil => intro p hp; cases hp
  | cons oc fr hz f z hr _ ih => exact List.forall_mem_cons.mpr ⟨hr.1, ih⟩

theorem dfs_refines (h : Heap) (hz : List HFrame) (z : Zipper) (c : Ptr) (k : Nat) (x : Bytes)
    (hr : ZR h none hz z) (ht : TopOk hz z) (hnd : (zPtrs h hz z).Nodup)
    (hc0 : c ≠ 0) (hcf : c ∉ zPtrs h hz z) (hcn : (h c).name = x) (hcl : (h c).hierarchy = (k : Int))
    (hcc : (h c).children = []) :
    (match Gtree.dfs k x z with
     | none => (stack.dfs h (hz.map (·.p)).reverse c).2.2 = false
     | some z' => ∃ h' hz', stack.dfs h (hz.map (·.p)).reverse c = (h', (hz'.map (·.p)).reverse, true) ∧
         ZR h' none hz' z' ∧ TopOk hz' z' ∧ (zPtrs h' hz' z').Nodup ∧
         (∀ q, q ∈ zPtrs h' hz' z' → q ∈ zPtrs h hz z ∨ q = c) ∧
         (∀ q, q ∉ zPtrs h hz z → q ≠ c → h' q = h q) ∧
         (hz'.map (·.p)).getLast? = (hz.map (·.p)).getLast?) := by
  have hlen := ZR_len h hz z none hr
  rw [dfs_spec h _ c fun p hp => ZR_ne h hz z none hr p (List.mem_reverse.mp hp), List.reverse_reverse, hcl,
    popTo_levels h k hz z none hr]
  cases hm : Gtree.dfs k x z with
  | none => rw [if_neg fun hpos => by rw [dfs_eq k x z hpos.1, if_neg (Nat.not_lt.mpr hpos.2)] at hm; cases hm]
  | some z' =>
    obtain ⟨h2, hkl, rfl⟩ := dfs_some k x z z' hm
    rw [if_pos ⟨h2, hkl⟩, closeTo]
    generalize hd : z.length - (k - 1) = d
    have hk1 : 0 < k - 1 := Nat.sub_pos_of_lt h2
    have hdl : d < hz.length := hlen ▸ hd ▸ Nat.sub_lt (Nat.lt_of_lt_of_le hk1 hkl) hk1
    obtain ⟨hz1, hr1, ht1, hmap1, hperm1, hlen1, hlen1'⟩ := ZR_upN h d hz z ht hr hdl
    obtain ⟨fr1, hz1', rfl⟩ := List.exists_cons_of_length_pos (hlen1' ▸ Nat.sub_pos_of_lt hdl)
    obtain ⟨f1, z1, hu⟩ := List.exists_cons_of_length_pos (hlen1 ▸ Nat.sub_pos_of_lt (hlen ▸ hdl))
    rw [hu] at hr1 ht1 hperm1 hlen1 ⊢
    have hlast : ((fr1 :: hz1').map (·.p)).getLast? = (hz.map (·.p)).getLast? := by
      rw [hmap1, List.map_drop, getLast?_drop_of_lt _ (by rwa [List.length_map])]
    -- the frame `popTo` stops at is the top frame after closing
    rw [List.drop_eq_getElem_cons hdl] at hmap1 ⊢
    simp only [List.map_cons, List.cons.injEq] at hmap1
    simp only []
    rw [← hmap1.1, ← hmap1.2]
    have hk : k = z1.length + 2 := (Nat.sub_eq_iff_eq_add (Nat.le_of_succ_le h2)).mp <| by
      rw [← Nat.sub_sub_self hkl, hd]; exact hlen1.symm
    obtain ⟨h', hz', hrun, hr', ht', hnd', hmem', hfr', hlast'⟩ := ZR_attach h fr1 hz1' f1 z1 c x ht1.1 ht1.2 hr1
      (hperm1.nodup_iff.mpr hnd) hc0 (fun hm => hcf (hperm1.mem_iff.mp hm)) hcn (by rw [hcl, hk]) hcc
    exact ⟨h', hz', hrun, hr', ht', hnd', fun q hq => (hmem' q hq).imp_left hperm1.mem_iff.mp,
      fun q hq hqc => hfr' q (fun hm => hq (hperm1.mem_iff.mp hm)) hqc, hlast'.trans hlast⟩

theorem ZR_root (h : Heap) (r : Ptr) (x : Bytes) (hr0 : r ≠ 0) (hn : (h r).name = x) (hl : (h r).hierarchy = 1)
    (hp : (h r).parent = 0) (hc : (h r).children = []) :
    ZR h none [{ p := r, L := [], R := [] }] [{ name := x, left := [], right := [] }] ∧
    TopOk [{ p := r, L := [], R := [] }] [{ name := x, left := [], right := [] }] ∧
    zPtrs h [{ p := r, L := [], R := [] }] [{ name := x, left := [], right := [] }] = [r] := by
  refine ⟨?_, ⟨rfl, rfl⟩, by simp [zPtrs, ptrsKids]⟩
  simp only [ZR, List.length_nil]
  exact ⟨hr0, hn, by rw [hl]; rfl, by simpa [parentOf] using hp, rfl, rfl, by simpa using hc, trivial⟩

theorem ZR_closeAll (h : Heap) (hz : List HFrame) (z : Zipper) (hr : ZR h none hz z) (ht : TopOk hz z)
    (hne : hz ≠ []) :
    ∃ t root, closeAll z = some t ∧ (hz.map (·.p)).getLast? = some root ∧ Repr h t root 0 1 ∧
      (ptrs h t root).Perm (zPtrs h hz z) := by
  have hlen := ZR_len h hz z none hr
  have hpos : 0 < hz.length := List.length_pos_iff.mpr hne
  have hd : z.length - 1 < hz.length := by rw [← hlen]; exact Nat.sub_lt hpos Nat.one_pos
  obtain ⟨hz1, hr1, ht1, hmap1, hperm1, hlen1, hlen1'⟩ := ZR_upN h (z.length - 1) hz z ht hr hd
  obtain ⟨fr1, rfl⟩ := List.length_eq_one_iff.mp (by rw [hlen1', ← hlen, Nat.sub_sub_self hpos])
  obtain ⟨f1, hu⟩ := List.length_eq_one_iff.mp (by rw [hlen1, Nat.sub_sub_self (hlen ▸ hpos)])
  rw [hu] at hr1 ht1 hperm1
  obtain ⟨hrepr, hch, -⟩ := (ZR_closed h fr1 [] f1 [] ht1.1 ht1.2).mp hr1
  rw [zPtrs_closed h fr1 [] f1 [] ht1.1 ht1.2 hch, zPtrs, List.append_nil] at hperm1
  refine ⟨f1.close, fr1.p, by simp [closeAll, closeTo, hu], ?_, hrepr, hperm1⟩
  rw [← getLast?_drop_of_lt (hz.map (·.p)) (d := z.length - 1) (by rwa [List.length_map]), ← List.map_drop, ← hmap1]
  rfl

/-- the translated `dfs` applied to the nodes of the block's rows, one after the other (what the generators' loop
    does between two root rows; hand-written: the loop itself — scanner, parser, counter — is not translated) -/
def feedH (h : Heap) (stk : List Ptr) : List Ptr → Option (Heap × List Ptr)
  | [] => some (h, stk)
  | c :: cs =>
    match stack.dfs h stk c with
    | (h', stk', true) => feedH h' stk' cs
    | (_, _, false) => none

/-- the model's zipper fed with the same items (level, name) -/
def feedM (z : Zipper) : List (Nat × Bytes) → Option Zipper
  | [] => some z
  | (k, x) :: its =>
    match Gtree.dfs k x z with
    | some z' => feedM z' its
    | none => none

/-- the nodes `newNode` made for the rows: not nil, named and levelled as the rows say, no children yet -/
def Items (h : Heap) : List Ptr → List (Nat × Bytes) → Prop
  | [], [] => True
  | [], _ :: _ => False
  | _ :: _, [] => False
  | c :: cs, it :: its => c ≠ 0 ∧ (h c).name = it.2 ∧ (h c).hierarchy = (it.1 : Int) ∧ (h c).children = [] ∧ Items h cs its

theorem Items_congr {h h' : Heap} : ∀ (cs : List Ptr) (its : List (Nat × Bytes)), (∀ c ∈ cs, h' c = h c) →
    Items h cs its → Items h' cs its := by
  intro cs
  induction cs with
  | nil => intro its _ hi; cases its <;> exact hi
  | cons c cs ih =>
    intro its hq hi
    obtain _ | ⟨it, its⟩ := its
    · exact hi
    · rw [Items, hq c List.mem_cons_self]
      exact ⟨hi.1, hi.2.1, hi.2.2.1, hi.2.2.2.1, ih its (fun q hq' => hq q (List.mem_cons_of_mem _ hq')) hi.2.2.2.2⟩

theorem feedH_cons (h : Heap) (stk : List Ptr) (c : Ptr) (cs : List Ptr) :
    feedH h stk (c :: cs) =
      if (stack.dfs h stk c).2.2 then feedH (stack.dfs h stk c).1 (stack.dfs h stk c).2.1 cs else none := by
  rw [feedH]
  rcases stack.dfs h stk c with ⟨h', stk', _ | _⟩ <;> rfl

theorem feed_refines : ∀ (cs : List Ptr) (its : List (Nat × Bytes)) (h : Heap) (hz : List HFrame) (z : Zipper),
    ZR h none hz z → TopOk hz z → (zPtrs h hz z).Nodup → Items h cs its → cs.Nodup →
    (∀ c ∈ cs, c ∉ zPtrs h hz z) →
    (match feedM z its with
     | none => feedH h (hz.map (·.p)).reverse cs = none
     | some z' => ∃ h' hz', feedH h (hz.map (·.p)).reverse cs = some (h', (hz'.map (·.p)).reverse) ∧
         ZR h' none hz' z' ∧ TopOk hz' z' ∧ (zPtrs h' hz' z').Nodup ∧
         (hz'.map (·.p)).getLast? = (hz.map (·.p)).getLast?) := by
  intro cs
  induction cs with
  | nil =>
    intro its h hz z hr ht hnd hi _ _
    cases its with
    | nil => exact ⟨h, hz, rfl, hr, ht, hnd, rfl⟩
    | cons => exact False.elim hi
  | cons c cs ih =>
    intro its h hz z hr ht hnd hi hcnd hcf
    obtain _ | ⟨⟨k, x⟩, its⟩ := its
    · exact False.elim hi
    obtain ⟨hc0, hcn, hcl, hcc, hrest⟩ := hi
    have hstep := dfs_refines h hz z c k x hr ht hnd hc0 (hcf c List.mem_cons_self) hcn hcl hcc
    rw [feedM, feedH_cons]
    revert hstep
    cases Gtree.dfs k x z with
    | none => intro (hstep : _ = false); rw [hstep]; rfl
    | some z1 =>
      rintro ⟨h1, hz1, hrun, hr1, ht1, hnd1, hmem1, hfr1, hlast1⟩
      dsimp only
      rw [hrun, if_pos rfl]
      obtain ⟨hc, hcs⟩ := List.nodup_cons.mp hcnd
      -- the step wrote no cell of a node still to come, and only `c` joined the represented pointers
      have hag : ∀ q ∈ cs, h1 q = h q := fun q hq =>
        hfr1 q (hcf q (List.mem_cons_of_mem _ hq)) fun he => hc (he ▸ hq)
      have ih := ih its h1 hz1 z1 hr1 ht1 hnd1 (Items_congr cs its hag hrest) hcs
        fun q hq hm' => (hmem1 q hm').elim (hcf q (List.mem_cons_of_mem _ hq)) fun he => hc (he ▸ hq)
      revert ih
      cases feedM z1 its with
      | none => exact id
      | some z2 =>
        rintro ⟨h2, hz2, hrun2, hr2, ht2, hnd2, hlast2⟩
        exact ⟨h2, hz2, hrun2, hr2, ht2, hnd2, hlast2.trans hlast1⟩

/-- the conclusion is the premise of the grower's theorem (`assemble_root`) -/
theorem block_builds_the_model_root (h : Heap) (r : Ptr) (x : Bytes) (cs : List Ptr) (its : List (Nat × Bytes))
    (hr0 : r ≠ 0) (hn : (h r).name = x) (hl : (h r).hierarchy = 1) (hp : (h r).parent = 0) (hc : (h r).children = [])
    (hi : Items h cs its) (hnd : (r :: cs).Nodup) :
    (match feedM [{ name := x, left := [], right := [] }] its with
     | none => feedH h [r] cs = none
     | some z' => ∃ h' stk t, feedH h [r] cs = some (h', stk) ∧ closeAll z' = some t ∧ stk.head? = some r ∧
         Repr h' t r 0 1 ∧ (ptrs h' t r).Nodup) := by
  obtain ⟨hzr, htr, hpr⟩ := ZR_root h r x hr0 hn hl hp hc
  have hcs := List.nodup_cons.mp hnd
  have := feed_refines cs its h _ _ hzr htr (hpr ▸ List.nodup_cons.mpr ⟨List.not_mem_nil, List.nodup_nil⟩) hi hcs.2
    (fun c hc' hm => hcs.1 (List.mem_singleton.mp (hpr ▸ hm) ▸ hc'))
  revert this
  cases feedM [{ name := x, left := [], right := [] }] its with
  | none => exact id
  | some z' =>
    rintro ⟨h', hz', hrun, hr', ht', hnd', hlast'⟩
    have hne : hz' ≠ [] := fun he => by subst he; cases hlast'
    obtain ⟨t, root, hclose, hlast, hrepr, hperm⟩ := ZR_closeAll h' hz' z' hr' ht' hne
    obtain rfl : r = root := Option.some.inj (hlast'.symm.trans hlast)
    exact ⟨h', _, t, hrun, hclose, List.head?_reverse.trans hlast, hrepr, hperm.nodup_iff.mpr hnd'⟩

/-- the items of a block's rows (level, name, row) handed to the model's generator one after the other (`addItem`, the
    function the model's `genStep` calls for a parsed row); `Gtree.addItems` with the row kept, which a format error
    names -/
def addItems (s : GState) : List (Nat × Bytes × Bytes) → Except GErr GState
  | [] => .ok s
  | (k, x, row) :: its =>
    match addItem s k x row with
    | .ok s' => addItems s' its
    | .error e => .error e

end Gtree.SrcH
