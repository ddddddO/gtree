import Gtree.Lemmas.HeapSpread
/-
  The dry-run printer of the source (simple_tree_spreader.go: `colorizeSpreaderSimple.spreadBranch`, `colorize`,
  `summary`), translated over the heap (the two counters are fields of the receiver, which is returned; colour switched
  off): on every heap that holds a tree it returns the tree's rows, one line per node in pre-order, counts the nodes the
  file decision calls files and the others, and the summary prints those counts.
-/
namespace Gtree.SrcH
open Gtree Gtree.Go

/-- the two counters after `colorize` on the nodes visited: the visits that are files, and the others -/
def bump (cs : colorizeSpreaderSimple) (vs : List Visit) : colorizeSpreaderSimple :=
  { cs with fileCounter := cs.fileCounter + (countFiles cs.fileConsiderer.extensions vs : Nat),
            dirCounter := cs.dirCounter + (countDirs cs.fileConsiderer.extensions vs : Nat) }

theorem bump_nil (cs : colorizeSpreaderSimple) : bump cs [] = cs := by
  simp [bump, countFiles, countDirs]

theorem bump_append (cs : colorizeSpreaderSimple) (a b : List Visit) : bump (bump cs a) b = bump cs (a ++ b) := by
  simp only [bump, countFiles, countDirs, List.filter_append, List.length_append, Int.natCast_add, Int.add_assoc]

/-- the body of the loop of the printer over the children -/
def dryBody (h : Heap) (fuel : Nat) : Ptr → colorizeSpreaderSimple × Bytes →
    Go.Ctl (colorizeSpreaderSimple × Bytes) (Option (colorizeSpreaderSimple × Bytes)) :=
  fun child st_ =>
    match st_ with
    | (cs, ret) =>
      match (colorizeSpreaderSimple.spreadBranch fuel h cs child) with
      | none => Go.Ctl.ret none
      | some r_ =>
        match r_ with
        | (cs, t1_) => Go.Ctl.next (cs, ret + t1_)

theorem colorize_bump (h : Heap) (cs : colorizeSpreaderSimple) (p : Ptr) (lvl : Nat) :
    colorizeSpreaderSimple.colorize h cs p = (bump cs [visitAt h p lvl], (h p).name) := by
  unfold colorizeSpreaderSimple.colorize
  rw [isFile_heap]
  simp only [bump, countFiles, countDirs, List.filter_cons, List.filter_nil, visitAt]
  cases isFileNode cs.fileConsiderer.extensions (h p).name (Node.hasChild h p) <;> simp [Go.color_Sprint]

theorem dry_unfold (fuel : Nat) (h : Heap) (cs : colorizeSpreaderSimple) (cur : Ptr) (lvl : Nat) :
    colorizeSpreaderSimple.spreadBranch (fuel + 1) h cs cur =
      (match Go.forRange (h cur).children (bump cs [visitAt h cur lvl], lineAt h cur) (dryBody h fuel) with
       | Go.Ctl.ret r_ => r_
       | Go.Ctl.brk st_ | Go.Ctl.next st_ => some (st_.1, st_.2)) := by
  -- not `rw`, as in `spreadBranch_unfold`
  change (if Node.isRoot h cur = true then _ else _) = _
  rw [colorize_bump h cs cur lvl, lineAt]
  cases Node.isRoot h cur <;> rfl

theorem dry_step (h : Heap) (cs : colorizeSpreaderSimple) (n : Bytes) (ks : List T) (p par : Ptr) (lvl fuel : Nat)
    (hr : Repr h (.mk n ks) p par lvl)
    (hk : ∀ cs1 acc, Nonempty (Go.forRange (h p).children (cs1, acc) (dryBody h fuel) =
      Go.Ctl.next (bump cs1 (readKids h ks (h p).children (lvl + 1)),
        acc ++ ((readKids h ks (h p).children (lvl + 1)).map lineOf).flatten))) :
    colorizeSpreaderSimple.spreadBranch (fuel + 1) h cs p =
      some (bump cs (readNode h (.mk n ks) p lvl), ((readNode h (.mk n ks) p lvl).map lineOf).flatten) := by
  obtain ⟨hrun⟩ := hk (bump cs [visitAt h p lvl]) (lineAt h p)
  rw [dry_unfold fuel h cs p lvl, hrun, bump_append, lineAt_visitAt h p lvl hr.level, readNode]
  rfl

theorem dry_kids (h : Heap) : ∀ (ts : List T) (cs : colorizeSpreaderSimple) (acc : Bytes) (cids : List Ptr) (par : Ptr)
    (lvl fuel : Nat), ReprKids h ts cids par lvl → sizeList ts ≤ fuel →
    Nonempty (Go.forRange cids (cs, acc) (dryBody h fuel) =
      Go.Ctl.next (bump cs (readKids h ts cids lvl), acc ++ ((readKids h ts cids lvl).map lineOf).flatten)) := by
  intro ts cs acc cids par lvl fuel hr
  induction ts, cids, par, lvl, hr using reprKids_induct generalizing cs acc fuel with
  | nil => exact fun _ => ⟨by rw [readKids, bump_nil]; simp [Go.forRange]⟩
  | cons n ks ts c cs' par lvl _ hrc _ _ ihk ihs =>
    intro hf
    obtain ⟨fuel, rfl, hfk, hfs⟩ := fuel_cons hf
    have h1 := dry_step h cs n ks c par lvl fuel hrc fun cs1 acc => ihk cs1 acc fuel hfk
    obtain ⟨h2⟩ := ihs (bump cs (readNode h (.mk n ks) c lvl)) (acc + ((readNode h (.mk n ks) c lvl).map lineOf).flatten)
      (fuel + 1) hfs
    refine ⟨?_⟩
    rw [Go.forRange, readKids]
    simp only [dryBody, h1]
    rw [h2, bump_append, add_bytes, List.map_append, List.flatten_append, List.append_assoc]

theorem dry_node (h : Heap) : ∀ (t : T) (cs : colorizeSpreaderSimple) (p par : Ptr) (lvl fuel : Nat),
    Repr h t p par lvl → t.size ≤ fuel →
    colorizeSpreaderSimple.spreadBranch fuel h cs p =
      some (bump cs (readNode h t p lvl), ((readNode h t p lvl).map lineOf).flatten) := by
  intro ⟨n, ks⟩ cs p par lvl fuel hr hf
  obtain ⟨fuel, rfl, hfk⟩ := fuel_node hf
  exact dry_step h cs n ks p par lvl fuel hr fun cs1 acc => dry_kids h ks cs1 acc _ p (lvl + 1) fuel hr.kids hfk

theorem summary_eq (h : Heap) (cs : colorizeSpreaderSimple) (d f : Nat) (hd : cs.dirCounter = d) (hf : cs.fileCounter = f) :
    colorizeSpreaderSimple.summary h cs = summaryBytes d f := by
  unfold colorizeSpreaderSimple.summary summaryBytes Go.fmt_d
  rw [hd, hf]
  simp only [Int.toNat_natCast]
  have h1 : strBytes " directories, " = [0x20, 0x64, 0x69, 0x72, 0x65, 0x63, 0x74, 0x6F, 0x72, 0x69, 0x65, 0x73, 0x2C, 0x20] := by decide +kernel
  have h2 : strBytes " files" = [0x20, 0x66, 0x69, 0x6C, 0x65, 0x73] := by decide +kernel
  rw [h1, h2]

end Gtree.SrcH
