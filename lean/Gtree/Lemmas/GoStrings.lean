import Gtree.Lemmas.ByteEq
import Gtree.Go.Strings
/-
  On the arguments gtree gives them, the general `strings` functions of `Go/Strings.lean` are the
  byte-level helpers of `Model/Bytes.lean`.
-/
namespace Gtree.Go
open Gtree

theorem isPrefixOf_single (b x : UInt8) (xs : Bytes) : List.isPrefixOf [b] (x :: xs) = (x == b) := by
  rw [Bool.beq_comm]; simp [List.isPrefixOf]

theorem index_cons (b x : UInt8) (xs : Bytes) :
    strings_Index (x :: xs) [b] = if x == b then some 0 else (strings_Index xs [b]).map (· + 1) := by
  rw [strings_Index, isPrefixOf_single]
  cases strings_Index xs [b] <;> rfl

theorem cut_of_index (b : UInt8) (s : Bytes) :
    cut b s = (strings_Index s [b]).map fun i => (s.take i, s.drop (i + 1)) := by
  induction s with
  | nil => rfl
  | cons x xs ih =>
    rw [index_cons, cut, ih]
    cases x == b
    · cases strings_Index xs [b] <;> rfl
    · rfl

theorem strings_Cut_single (b : UInt8) (s : Bytes) : strings_Cut s [b] =
    match cut b s with | some (l, r) => (l, r, true) | none => (s, [], false) := by
  rw [strings_Cut, cut_of_index]
  cases strings_Index s [b] <;> rfl

theorem strings_TrimLeft_single (b : UInt8) (s : Bytes) : strings_TrimLeft s [b] = trimLeftB b s := by
  induction s with
  | nil => rfl
  | cons x xs ih => simp [strings_TrimLeft, trimLeftB, ih]

theorem strings_Trim_single (b : UInt8) (s : Bytes) : strings_Trim s [b] = trimB b s := by
  simp [strings_Trim, strings_TrimRight, trimB, trimRightB, strings_TrimLeft_single]

theorem strings_TrimPrefix_single (b : UInt8) : ∀ s : Bytes, strings_TrimPrefix s [b] = trimPrefixB b s
  | [] => rfl
  | x :: xs => by rw [strings_TrimPrefix, isPrefixOf_single]; rfl

theorem strings_HasPrefix_single (b : UInt8) : ∀ s : Bytes, strings_HasPrefix s [b] = (s.head? == some b)
  | [] => rfl
  | x :: xs => by simp [strings_HasPrefix, isPrefixOf_single]

theorem spaceRuneLen_append (p t : Bytes) (h : spaceRuneLen p ≠ 0) : spaceRuneLen (p ++ t) ≠ 0 := by
  unfold spaceRuneLen at h
  -- `p` begins with one of the white-space runes (`p ++ t` then begins with the same bytes, and the goal computes to `h`),
  -- or with none, the last case of `spaceRuneLen`, where `h` is `0 ≠ 0`
  split at h <;> first | exact h | exact absurd rfl h

theorem spaceRuneLen_take (s : Bytes) (n : Nat) (h : spaceRuneLen s = 0) : spaceRuneLen (s.take n) = 0 :=
  Classical.byContradiction fun hne =>
    spaceRuneLen_append (s.take n) (s.drop n) hne (by rwa [List.take_append_drop])

theorem trimLeftSpaceFuel_spec (fuel : Nat) : ∀ s : Bytes, s.length ≤ fuel →
    if isBlankFuel fuel s then trimLeftSpaceFuel fuel s = []
    else trimLeftSpaceFuel fuel s ≠ [] ∧ spaceRuneLen (trimLeftSpaceFuel fuel s) = 0 := by
  induction fuel with
  | zero =>
    intro s h
    cases List.eq_nil_of_length_eq_zero (Nat.le_zero.mp h)
    simp [trimLeftSpaceFuel, isBlankFuel]
  | succ fuel ih =>
    intro s h
    cases s with
    | nil => exact rfl
    | cons x xs =>
      unfold trimLeftSpaceFuel isBlankFuel
      by_cases hk : spaceRuneLen (x :: xs) = 0
      · simp [hk]
      · simp only [beq_iff_eq, hk, if_false]
        -- a rune of at least one byte is dropped
        have hlt := Nat.sub_lt (Nat.succ_pos xs.length) (Nat.pos_of_ne_zero hk)
        exact ih _ (by rw [List.length_drop]; exact Nat.le_of_lt_succ (Nat.lt_of_lt_of_le hlt h))

theorem trimRightSpaceFuel_ne_nil (fuel : Nat) : ∀ s : Bytes, s ≠ [] → spaceRuneLen s = 0 →
    trimRightSpaceFuel fuel s ≠ [] := by
  induction fuel with
  | zero => exact fun s hs _ => hs
  | succ fuel ih =>
    intro s hs h0
    have step : ∀ k, endsWithSpaceRune s k = true →
        trimRightSpaceFuel fuel (s.take (s.length - k)) ≠ [] := by
      intro k hk
      simp only [endsWithSpaceRune, Bool.and_eq_true, decide_eq_true_eq, beq_iff_eq, bne_iff_ne] at hk
      obtain ⟨⟨hle, hr⟩, hk0⟩ := hk
      apply ih _ _ (spaceRuneLen_take s _ h0)
      intro he
      -- nothing left: the rune was all of `s`, which does not begin with one
      rw [(List.take_eq_nil_iff.mp he).resolve_right hs, List.drop_zero] at hr
      exact hk0 (hr.symm.trans h0)
    rw [trimRightSpaceFuel]
    cases h1 : endsWithSpaceRune s 1
    · cases h2 : endsWithSpaceRune s 2
      · cases h3 : endsWithSpaceRune s 3
        · exact hs
        · exact step 3 h3
      · exact step 2 h2
    · exact step 1 h1

theorem len_TrimSpace_eq_zero (s : Bytes) : (len (strings_TrimSpace s) == 0) = isBlank s := by
  have h := trimLeftSpaceFuel_spec s.length s (Nat.le_refl _)
  unfold strings_TrimSpace trimLeftSpace len isBlank
  split at h
  · simp [*, trimRightSpaceFuel]
  · have := trimRightSpaceFuel_ne_nil (trimLeftSpaceFuel s.length s).length _ h.1 h.2
    simp [*]

theorem runeLen_ascii (c : UInt8) (rest : Bytes) (h : c < 0x80) : runeLen (c :: rest) = 1 := by
  unfold runeLen
  simp [h]

theorem idx_Split_first (c : UInt8) (rest : Bytes) :
    idx (strings_Split (c :: rest) []) 0 = (c :: rest).take (runeLen (c :: rest)) := by
  simp [idx, strings_Split, explodeFuel]

theorem first_char_ascii (c : UInt8) (rest : Bytes) (h : c < 0x80) : idx (strings_Split (c :: rest) []) 0 = [c] := by
  rw [idx_Split_first, runeLen_ascii c rest h]
  rfl

theorem first_char_eq (c x : UInt8) (rest : Bytes) (hx : x < 0x80) :
    (idx (strings_Split (c :: rest) []) 0 == [x]) = (c == x) := by
  by_cases h : c = x
  · subst h
    simp [first_char_ascii c rest hx]
  · -- however many bytes are taken, they begin with `c`
    rw [idx_Split_first]
    cases runeLen (c :: rest) <;> simp [h]

theorem countB_of_index (b : UInt8) (s : Bytes) :
    countB b s = match strings_Index s [b] with | some i => 1 + countB b (s.drop (i + 1)) | none => 0 := by
  induction s with
  | nil => rfl
  | cons x xs ih =>
    rw [index_cons, countB]
    by_cases hx : x == b
    · simp [hx]
    · rw [ih]
      cases strings_Index xs [b] <;> simp [hx]

theorem countFuel_single (b : UInt8) (fuel : Nat) : ∀ s : Bytes, s.length ≤ fuel → countFuel fuel s [b] = countB b s := by
  induction fuel with
  | zero =>
    intro s h
    cases List.eq_nil_of_length_eq_zero (Nat.le_zero.mp h)
    rfl
  | succ fuel ih =>
    intro s h
    rw [countFuel, countB_of_index b s]
    cases strings_Index s [b] with
    | none => rfl
    | some i =>
      simp only []
      rw [ih _ (List.length_drop ▸ Nat.le_trans (Nat.sub_le_sub_left (Nat.le_add_left 1 i) _) (Nat.sub_le_of_le_add h))]
      rfl

theorem strings_Count_single (b : UInt8) (s : Bytes) : strings_Count s [b] = Int.ofNat (countB b s) := by
  simp [strings_Count, countFuel_single b s.length s (Nat.le_refl _)]

end Gtree.Go
