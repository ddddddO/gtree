import Gtree.Model.MkOps
import Gtree.Lemmas.FSChanges
/-
  The mkdirer as a run of file-system operations: `mkNodes` is its nodes' operations (`opsOf`) in pre-order until the
  first failure; and operations, run in order or folded in any order, change the file system at most as `FS.GrowsBy`
  allows for their paths.
-/
namespace Gtree

theorem runOps_append (fs : FS) (a b : List FsOp) :
    runOps fs (a ++ b) = match runOps fs a with
      | (fs1, some e) => (fs1, some e)
      | (fs1, none) => runOps fs1 b := by
  induction a generalizing fs with
  | nil => simp [runOps]
  | cons op ops ih =>
    simp only [List.cons_append, runOps]
    cases h : fs.applyOp op with
    | mk fs1 e =>
      cases e with
      | some e => rfl
      | none => exact ih fs1

theorem mkNodes_eq_runOps (target : Bytes) (exts : List Bytes) : ∀ (vs : List Visit) (fs : FS),
    mkNodes target exts fs vs = runOps fs (vs.flatMap (opsOf target exts)) := by
  intro vs
  induction vs with
  | nil => exact fun _ => rfl
  | cons v vs ih =>
    intro fs
    rw [List.flatMap_cons, runOps_append, mkNodes, opsOf]
    -- both sides take the same branch, and then inspect the same results
    by_cases hfile : isFileNode exts v.name v.hasChild = true
    · rw [if_pos hfile, if_pos hfile, runOps, FS.applyOp]
      dsimp only
      cases fs.mkdirAll (filepathJoin [target, trimSuffix v.path v.name]) with
      | mk fs1 e1 =>
        cases e1 with
        | some e => rfl
        | none =>
          dsimp only [runOps, FS.applyOp]
          cases fs1.create (filepathJoin [target, v.path]) with
          | mk fs2 e2 =>
            cases e2 with
            | some e => rfl
            | none => exact ih fs2
    · rw [if_neg hfile, if_neg hfile]
      by_cases hleaf : (!v.hasChild) = true
      · rw [if_pos hleaf, if_pos hleaf, runOps, FS.applyOp]
        cases fs.mkdirAll (filepathJoin [target, v.path]) with
        | mk fs1 e1 =>
          cases e1 with
          | some e => rfl
          | none => exact ih fs1
      · rw [if_neg hleaf, if_neg hleaf]
        exact ih fs

theorem mkNodes_append (target : Bytes) (exts : List Bytes) (a b : List Visit) (fs : FS) :
    mkNodes target exts fs (a ++ b) =
      match mkNodes target exts fs a with
      | (fs1, some e) => (fs1, some e)
      | (fs1, none) => mkNodes target exts fs1 b := by
  simp only [mkNodes_eq_runOps, List.flatMap_append, runOps_append]

/-- `s` differs from `fs` at most by what the operations `ops` can create -/
abbrev FS.GrowsByOps (ops : List FsOp) (fs s : FS) : Prop :=
  FS.GrowsBy (fun p => ∃ q, .mkdirAll q ∈ ops ∧ p ∈ prefixesOf q) (fun p => .create p ∈ ops) fs s

theorem FS.GrowsByOps.cons {op : FsOp} {ops : List FsOp} {fs s : FS}
    (h : FS.GrowsByOps ops (fs.applyOp op).1 s) : FS.GrowsByOps (op :: ops) fs s := by
  refine .trans ?_ (h.mono (fun _ ⟨q, hq, hp⟩ => ⟨q, List.mem_cons_of_mem _ hq, hp⟩) (fun _ hc => List.mem_cons_of_mem _ hc))
  cases op with
  | mkdirAll q => exact (mkdirAll_grows fs q).mono (fun _ hp => ⟨q, List.mem_cons_self, hp⟩) (fun _ h => h.elim)
  | create q => exact (create_grows fs q).mono (fun _ h => h.elim) (fun _ hp => hp ▸ List.mem_cons_self)

theorem applyAll_grows : ∀ (ops : List FsOp) (fs : FS),
    FS.GrowsByOps ops fs (applyAll fs ops)
  | [], fs => .refl _ _ fs
  | _ :: ops, _ => FS.GrowsByOps.cons (applyAll_grows ops _)

theorem runOps_grows : ∀ (ops : List FsOp) (fs : FS),
    FS.GrowsByOps ops fs (runOps fs ops).1
  | [], fs => .refl _ _ fs
  | op :: ops, fs => by
    refine FS.GrowsByOps.cons ?_
    rw [runOps]
    cases hm : fs.applyOp op with
    | mk fs1 e =>
      cases e with
      | some e => exact .refl _ _ fs1
      | none => exact runOps_grows ops fs1

/-- the paths the operations of one visit can change: the `Create` path, and every prefix of the `MkdirAll` path -/
def touched (target : Bytes) (exts : List Bytes) (v : Visit) : List Bytes :=
  if isFileNode exts v.name v.hasChild then
    filepathJoin [target, v.path] :: prefixesOf (filepathJoin [target, trimSuffix v.path v.name])
  else if !v.hasChild then prefixesOf (filepathJoin [target, v.path])
  else []

theorem opsOf_touched (target : Bytes) (exts : List Bytes) (v : Visit) {op : FsOp} (hop : op ∈ opsOf target exts v) :
    (∀ q, op = .mkdirAll q → ∀ p ∈ prefixesOf q, p ∈ touched target exts v) ∧
    (∀ q, op = .create q → q ∈ touched target exts v) := by
  rw [opsOf] at hop
  rw [touched]
  by_cases hfile : isFileNode exts v.name v.hasChild = true
  · rw [if_pos hfile] at hop ⊢
    rcases List.mem_cons.mp hop with rfl | hop
    · exact ⟨fun q e p hp => List.mem_cons_of_mem _ (FsOp.mkdirAll.inj e ▸ hp), nofun⟩
    · cases List.mem_singleton.mp hop
      exact ⟨nofun, fun q e => FsOp.create.inj e ▸ List.mem_cons_self⟩
  · rw [if_neg hfile] at hop ⊢
    by_cases hleaf : (!v.hasChild) = true
    · rw [if_pos hleaf] at hop ⊢
      cases List.mem_singleton.mp hop
      exact ⟨fun q e p hp => FsOp.mkdirAll.inj e ▸ hp, nofun⟩
    · rw [if_neg hleaf] at hop
      cases hop

theorem mkNodes_changes (target : Bytes) (exts : List Bytes) : ∀ (vs : List Visit) (fs : FS) (p : Bytes),
    (∀ v ∈ vs, p ∉ touched target exts v) → (mkNodes target exts fs vs).1.lookup p = fs.lookup p := by
  intro vs fs p hp
  rw [mkNodes_eq_runOps]
  refine (runOps_grows _ fs).unchanged (fun ⟨q, hq, hpq⟩ => ?_) (fun hc => ?_)
  · obtain ⟨v, hv, hin⟩ := List.mem_flatMap.mp hq
    exact hp v hv ((opsOf_touched target exts v hin).1 q rfl p hpq)
  · obtain ⟨v, hv, hin⟩ := List.mem_flatMap.mp hc
    exact hp v hv ((opsOf_touched target exts v hin).2 p rfl)

theorem mkdirRoots_go_runOps (target : Bytes) (exts : List Bytes) (roots : List (List Visit)) (fs : FS) :
    mkdirRoots.go target exts fs roots =
      Prod.map id (Option.map MkErr.os) (runOps fs (roots.flatten.flatMap (opsOf target exts))) := by
  induction roots generalizing fs with
  | nil => rfl
  | cons vs rest ih =>
    rw [mkdirRoots.go, List.flatten_cons, List.flatMap_append, runOps_append, ← mkNodes_eq_runOps]
    cases mkNodes target exts fs vs with
    | mk fs1 e =>
      cases e with
      | some e => rfl
      | none => exact ih fs1

theorem mkdirRoots_grows (target : Bytes) (exts : List Bytes) (roots : List (List Visit)) (fs : FS) :
    FS.GrowsByOps (roots.flatten.flatMap (opsOf target exts)) fs (mkdirRoots fs target exts roots).1 := by
  unfold mkdirRoots
  split
  · exact .refl _ _ fs
  · rw [mkdirRoots_go_runOps]
    exact runOps_grows _ fs

end Gtree
