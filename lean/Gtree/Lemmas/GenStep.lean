import Gtree.Lemmas.ByteEq
import Gtree.Model.Generate
/-
  What `dfs`, `addItem` and `genStep` return, by the form of their input and of the parser's answer, and
  `generate` as `genRows` over the scanned rows.
-/
namespace Gtree

theorem dfs_eq (h : Nat) (x : Bytes) (z : Zipper) (h2 : 2 ≤ h) :
    dfs h x z = if z.length < h - 1 then none else some (descend x (closeTo (h - 1) z)) := by
  simp [dfs, Nat.not_lt.mpr h2]

theorem dfs_some (h : Nat) (x : Bytes) (z z' : Zipper) (hd : dfs h x z = some z') :
    2 ≤ h ∧ h - 1 ≤ z.length ∧ z' = descend x (closeTo (h - 1) z) := by
  have h2 : 2 ≤ h := Nat.le_of_not_lt fun hlt => by simp [dfs, hlt] at hd
  rw [dfs_eq h x z h2] at hd
  split at hd
  · cases hd
  · exact ⟨h2, Nat.le_of_not_lt ‹_›, by cases hd; rfl⟩

theorem splitAtName_spec (x : Bytes) (kids l : List T) (c : T) (r : List T)
    (h : splitAtName x kids = some (l, c, r)) : kids = l ++ c :: r ∧ c.name = x := by
  induction kids generalizing l with
  | nil => cases h
  | cons t ts ih =>
    unfold splitAtName at h
    split at h
    · cases h; exact ⟨rfl, eq_of_beq ‹_›⟩
    · cases hs : splitAtName x ts with
      | none => rw [hs] at h; cases h
      | some p =>
        rw [hs] at h; cases h
        exact ⟨by rw [(ih _ hs).1]; rfl, (ih _ hs).2⟩

theorem addItem_root (s : GState) (text row : Bytes) :
    addItem s 1 text row = .ok { s with done := s.finishCur, cur := some [{ name := text, left := [], right := [] }] } := rfl

theorem addItem_child (s : GState) (h : Nat) (text row : Bytes) (hh : h ≠ 1) :
    addItem s h text row =
      match s.cur with
      | none => .error .nilStack
      | some z => match dfs h text z with
        | none => .error (.format row)
        | some z' => .ok { s with cur := some z' } := by
  have : (h == 1) = false := by simpa using hh
  simp only [addItem, this, Bool.false_eq_true, if_false]
  cases s.cur with
  | none => rfl
  | some z => cases dfs h text z <;> rfl

theorem addItem_child_ok (s s' : GState) (h : Nat) (text row : Bytes) (hh : h ≠ 1)
    (hok : addItem s h text row = .ok s') :
    ∃ z z', s.cur = some z ∧ dfs h text z = some z' ∧ s' = { s with cur := some z' } := by
  rw [addItem_child s h text row hh] at hok
  cases hc : s.cur with
  | none => rw [hc] at hok; cases hok
  | some z =>
    simp only [hc] at hok
    cases hd : dfs h text z with
    | none => rw [hd] at hok; cases hok
    | some z' => rw [hd] at hok; cases hok; exact ⟨z, z', rfl, hd, rfl⟩

theorem addItem_p (g g' : GState) (h : Nat) (t row : Bytes) (hok : addItem g h t row = .ok g') : g'.p = g.p := by
  by_cases h1 : h = 1
  · subst h1; cases hok; rfl
  · obtain ⟨_, _, _, _, rfl⟩ := addItem_child_ok g g' h t row h1 hok
    rfl

theorem addItem_with_p (g : GState) (q : PState) (h : Nat) (t row : Bytes) :
    addItem { g with p := q } h t row =
      (match addItem g h t row with
       | .ok r => .ok { r with p := q }
       | .error e => .error e) := by
  by_cases h1 : h = 1
  · subst h1; rfl
  · rw [addItem_child _ h t row h1, addItem_child g h t row h1]
    cases g.cur with
    | none => rfl
    | some z => dsimp only; cases dfs h t z <;> rfl

theorem addItem_row (g r : GState) (h : Nat) (t row row' : Bytes) (hok : addItem g h t row = .ok r) :
    addItem g h t row' = .ok r := by
  by_cases h1 : h = 1
  · subst h1; exact hok
  · obtain ⟨z, z', hc, hd, rfl⟩ := addItem_child_ok g r h t row h1 hok
    simp only [addItem_child g h t row' h1, hc, hd]

theorem genStep_of_parse (g : GState) (row : Bytes) (p' : PState) (h : Nat) (text : Bytes)
    (hp : parse g.p row = (p', .ok (h, text))) :
    genStep g row = addItem { g with p := p' } h text row := by
  simp only [genStep, hp]

/-- the hypothesis has the form in which `parse_row` reports a rejected row -/
theorem genStep_of_incorrect (g : GState) (row : Bytes) (hp : (parse g.p row).2 = .error .incorrect) :
    genStep g row = .error (.format row) := by
  cases h : parse g.p row with
  | mk p' r =>
    rw [h] at hp
    simp only at hp
    subst hp
    simp only [genStep, h]

theorem genStep_of_empty (g : GState) (row : Bytes) (p' : PState)
    (hp : parse g.p row = (p', .error .emptyText)) : genStep g row = .error .emptyText := by
  simp only [genStep, hp]

theorem genStep_of_blank (g : GState) (row : Bytes) (p' : PState)
    (hp : parse g.p row = (p', .error .blank)) : genStep g row = .ok { g with p := p' } := by
  simp only [genStep, hp]

theorem genStep_blank_row (g : GState) (b : Bytes) (hb : isBlank b = true) : genStep g b = .ok g :=
  genStep_of_blank g b g.p (by simp [parse, hb])

theorem genStep_ok (g g' : GState) (row : Bytes) (hok : genStep g row = .ok g') :
    (parse g.p row).2 = .error .blank ∧ g' = { g with p := (parse g.p row).1 } ∨
    ∃ h text, (parse g.p row).2 = .ok (h, text) ∧ addItem { g with p := (parse g.p row).1 } h text row = .ok g' := by
  cases hp : parse g.p row with
  | mk p' r =>
    cases r with
    | error pe =>
      cases pe with
      | blank => rw [genStep_of_blank g row p' hp] at hok; cases hok; exact Or.inl ⟨rfl, rfl⟩
      | emptyText => rw [genStep_of_empty g row p' hp] at hok; cases hok
      | incorrect => rw [genStep_of_incorrect g row (by rw [hp])] at hok; cases hok
    | ok v => exact Or.inr ⟨v.1, v.2, rfl, by rw [← genStep_of_parse g row p' v.1 v.2 hp]; exact hok⟩

theorem genStep_p (g g' : GState) (l : Bytes) (hok : genStep g l = .ok g') : g'.p = (parse g.p l).1 := by
  rcases genStep_ok g g' l hok with ⟨_, rfl⟩ | ⟨h, text, _, ha⟩
  · rfl
  · exact addItem_p _ g' h text l ha

/-- the open root, closed: what `finishCur` appends to `done` and `generateFrom` reports as `last` -/
def GState.root (g : GState) : Option T :=
  match g.cur with
  | none => none
  | some z => closeAll z

theorem finishCur_eq (g : GState) : g.finishCur = g.done ++ g.root.toList := by
  unfold GState.finishCur GState.root
  cases g.cur with
  | none => simp
  | some z => cases h : closeAll z <;> simp [h]

theorem generate_doc (doc : Bytes) :
    (generate { doc := doc }).roots = (genRows {} (scanLines doc).rows).1.finishCur ∧
    (generate { doc := doc }).err =
      (genRows {} (scanLines doc).rows).2.or (if (scanLines doc).tooLong then some .tooLong else none) := by
  unfold generate generateFrom
  cases hg : genRows {} (scanLines doc).rows with
  | mk g e =>
    simp only [hg, Gen.roots, finishCur_eq, GState.root]
    cases e with
    | some err => exact ⟨rfl, rfl⟩
    | none => cases (scanLines doc).tooLong <;> exact ⟨rfl, rfl⟩

theorem genRows_append (a b : List Bytes) (g : GState) :
    genRows g (a ++ b) = (match genRows g a with
      | (g1, some e) => (g1, some e)
      | (g1, none) => genRows g1 b) := by
  induction a generalizing g with
  | nil => rfl
  | cons r a ih =>
    simp only [List.cons_append, genRows]
    cases genStep g r with
    | error e => rfl
    | ok g' => exact ih g'

theorem genRows_all_blank (g : GState) (rows : List Bytes) (h : ∀ r ∈ rows, isBlank r = true) :
    genRows g rows = (g, none) := by
  induction rows with
  | nil => rfl
  | cons r rs ih =>
    rw [genRows, genStep_blank_row g r (h r (by simp))]
    exact ih fun r' hr' => h r' (by simp [hr'])

end Gtree
