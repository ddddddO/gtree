import Gtree.Lemmas.MkOps
import Gtree.Lemmas.FSExact
import Gtree.Lemmas.ValidNames
import Gtree.Lemmas.Validate
/-
  With names that are single valid path elements and a clean relative target (`key ts`, `ts` non-empty: the default
  target "." is not of this form), the mkdirer's operations, in whatever order and with whatever outcome, change the
  file system only at prefixes of the target, the target and below it.
-/
namespace Gtree

/-- `p` is a non-empty prefix of the target path, the target, or something below the target -/
def InTarget (ts : List Bytes) (p : Bytes) : Prop :=
  ∃ es, es ≠ [] ∧ (∀ e ∈ es, Elem e) ∧ p = key es ∧ (es <+: ts ∨ ts <+: es)

theorem inTarget_prefixes (ts Q : List Bytes) (hts : ts ≠ []) (he : ∀ e ∈ ts ++ Q, Elem e) :
    ∀ p ∈ prefixesOf (key (ts ++ Q)), InTarget ts p := by
  intro p hp
  rw [prefixesOf_key_elem (by simp [hts]) he] at hp
  obtain ⟨i, _, rfl⟩ := mem_prefixKeys.mp hp
  exact ⟨(ts ++ Q).take (i + 1), by simp [List.take_eq_nil_iff, hts], fun e h => he e (List.mem_of_mem_take h), rfl,
    List.prefix_or_prefix_of_prefix (List.take_prefix _ _) (List.prefix_append _ _)⟩

theorem touched_inTarget (f : Fmt) (exts : List Bytes) (ts : List Bytes) (hts : ts ≠ []) (hte : ∀ e ∈ ts, Elem e)
    (t : T) (h : AllElemT t) : ∀ v ∈ growRoot f t, ∀ p ∈ touched (key ts) exts v, InTarget ts p := by
  intro v hv p hp
  obtain ⟨P, hP, hn, hpath⟩ := growRoot_shape f t h v hv
  have hall : ∀ e ∈ ts ++ P ++ [v.name], Elem e :=
    List.forall_mem_append.mpr ⟨List.forall_mem_append.mpr ⟨hte, hP⟩, List.forall_mem_singleton.mpr hn⟩
  have hfull : filepathJoin [key ts, v.path] = key (ts ++ P ++ [v.name]) :=
    hpath ▸ filepathJoin_node ts P v.name hts hte hP hn
  have hdir : filepathJoin [key ts, trimSuffix v.path v.name] = key (ts ++ P) :=
    hpath ▸ filepathJoin_parent ts P v.name hts hte hP
  unfold touched at hp
  by_cases hfile : isFileNode exts v.name v.hasChild = true
  · rw [if_pos hfile, hfull, hdir] at hp
    rcases List.mem_cons.mp hp with rfl | hp
    · exact ⟨_, by simp, hall, rfl, Or.inr ((List.prefix_append ts P).trans (List.prefix_append _ _))⟩
    · exact inTarget_prefixes ts P hts (List.forall_mem_append.mpr ⟨hte, hP⟩) p hp
  · rw [if_neg hfile] at hp
    by_cases hleaf : (!v.hasChild) = true
    · rw [if_pos hleaf, hfull, List.append_assoc] at hp
      exact inTarget_prefixes ts (P ++ [v.name]) hts (List.append_assoc ts P _ ▸ hall) p hp
    · rw [if_neg hleaf] at hp
      simp at hp

theorem growsBy_inTarget (f : Fmt) (exts : List Bytes) (ts : List Bytes) (hts : ts ≠ []) (hte : ∀ e ∈ ts, Elem e)
    (ops : List FsOp) (hops : ∀ op ∈ ops, ∃ t, AllElemT t ∧ ∃ v ∈ growRoot f t, op ∈ opsOf (key ts) exts v) {fs s : FS}
    (h : FS.GrowsByOps ops fs s) :
    FS.GrowsBy (InTarget ts) (InTarget ts) fs s := by
  refine h.mono (fun p ⟨q, hq, hp⟩ => ?_) (fun p hc => ?_)
  · obtain ⟨t, ht, v, hv, hin⟩ := hops _ hq
    exact touched_inTarget f exts ts hts hte t ht v hv p ((opsOf_touched (key ts) exts v hin).1 q rfl p hp)
  · obtain ⟨t, ht, v, hv, hin⟩ := hops _ hc
    exact touched_inTarget f exts ts hts hte t ht v hv p ((opsOf_touched (key ts) exts v hin).2 p rfl)

theorem allElemT_of_valid (f : Fmt) (t : T) {vs : List Visit} (h : validateVisits vs = none)
    (hvs : ∀ v ∈ growRoot f t, v ∈ vs) : AllElemT t :=
  allElemT_of_visits f t fun w hw => (singleElem_iff _).mp (validateVisits_none_single _ h w (hvs w hw))

theorem mkdirRootsApi_grows (f : Fmt) (exts : List Bytes) (ts : List Bytes) (hts : ts ≠ []) (hte : ∀ e ∈ ts, Elem e)
    (dry : Bool) (roots : List T) (fs : FS) :
    FS.GrowsBy (InTarget ts) (InTarget ts) fs (mkdirRootsApi f exts (key ts) dry roots fs).fs := by
  simp only [mkdirRootsApi]
  cases hv : validateVisits (roots.map (growRoot f)).flatten with
  | some e => exact .refl _ _ fs
  | none =>
    cases dry with
    | true => exact .refl _ _ fs
    | false =>
      have hgo := growsBy_inTarget f exts ts hts hte _ (fun op hop => ?_)
        (mkdirRoots_grows (key ts) exts (roots.map (growRoot f)) fs)
      · cases hm : mkdirRoots fs (key ts) exts (roots.map (growRoot f)) with
        | mk fs' e' =>
          rw [hm] at hgo
          cases e' <;> exact hgo
      · obtain ⟨v, hvm, hin⟩ := List.mem_flatMap.mp hop
        obtain ⟨vs, hvs, hvv⟩ := List.mem_flatten.mp hvm
        obtain ⟨t, _, rfl⟩ := List.mem_map.mp hvs
        exact ⟨t, allElemT_of_valid f t hv fun w hw => List.mem_flatten.mpr ⟨_, hvs, hw⟩, v, hvv, hin⟩

end Gtree
