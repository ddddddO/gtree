import Gtree.Lemmas.ByteEq
import Gtree.Spec.Merge
import Gtree.Lemmas.Tree
/- Trees whose sibling names are pairwise distinct at every level (what NewRoot/Add build) are fixed points of the merge,
   and merging keeps siblings distinct. -/
namespace Gtree

mutual
/-- sibling names are pairwise distinct, hereditarily -/
def DistinctT : T → Prop
  | .mk _ ks => DistinctL ks
def DistinctL : List T → Prop
  | [] => True
  | t :: ts => (∀ u ∈ ts, u.name ≠ t.name) ∧ DistinctT t ∧ DistinctL ts
end

theorem distinctL_iff : ∀ (ks : List T), DistinctL ks ↔ (ks.map T.name).Nodup ∧ ∀ t ∈ ks, DistinctT t := by
  intro ks
  induction ks with
  | nil => simp [DistinctL]
  | cons t ts ih =>
    rw [DistinctL, ih]
    simp only [List.map_cons, List.nodup_cons, List.mem_map, List.mem_cons, forall_eq_or_imp, not_exists, not_and]
    constructor
    · rintro ⟨h1, h2, h3, h4⟩; exact ⟨⟨h1, h3⟩, h2, h4⟩
    · rintro ⟨⟨h1, h3⟩, h2, h4⟩; exact ⟨h1, h2, h3, h4⟩

theorem updateFirst_eq_none_iff (n : Bytes) {g : T → T} :
    ∀ (acc : List T), updateFirst n g acc = none ↔ ∀ t ∈ acc, t.name ≠ n := by
  intro acc
  induction acc with
  | nil => simp [updateFirst]
  | cons t ts ih =>
    rw [updateFirst, List.forall_mem_cons, ← ih]
    cases ht : t.name == n
    · have : t.name ≠ n := ne_of_beq_false ht
      cases updateFirst n g ts <;> simp [this]
    · simp [eq_of_beq ht]

theorem updateFirst_some_spec (n : Bytes) (g : T → T) : ∀ (acc acc' : List T), updateFirst n g acc = some acc' →
    ∃ pre c post, acc = pre ++ c :: post ∧ c.name = n ∧ (∀ t ∈ pre, t.name ≠ n) ∧ acc' = pre ++ g c :: post := by
  intro acc
  induction acc with
  | nil => intro _ h; cases h
  | cons t ts ih =>
    intro acc' h
    rw [updateFirst] at h
    cases ht : t.name == n with
    | true =>
      rw [ht, if_pos rfl] at h
      exact ⟨[], t, ts, rfl, eq_of_beq ht, by simp, (Option.some.inj h).symm⟩
    | false =>
      rw [ht, if_neg Bool.false_ne_true] at h
      cases hu : updateFirst n g ts with
      | none => rw [hu] at h; cases h
      | some ts' =>
        rw [hu] at h
        obtain ⟨pre, c, post, rfl, h2, h3, rfl⟩ := ih ts' hu
        exact ⟨t :: pre, c, post, rfl, h2, List.forall_mem_cons.mpr ⟨ne_of_beq_false ht, h3⟩, (Option.some.inj h).symm⟩

theorem absorb_some (acc acc' : List T) (n : Bytes) (ks : List T)
    (h : updateFirst n (fun c => .mk c.name (absorbAll c.kids ks)) acc = some acc') :
    absorb acc (.mk n ks) = acc' := by
  simp only [absorb, h]

theorem absorb_none (acc : List T) (n : Bytes) (ks : List T)
    (h : updateFirst n (fun c => .mk c.name (absorbAll c.kids ks)) acc = none) :
    absorb acc (.mk n ks) = acc ++ [.mk n (absorbAll [] ks)] := by
  simp only [absorb, h]

theorem absorbAll_eq_append : ∀ (ks acc : List T), DistinctL ks → (∀ k ∈ ks, ∀ a ∈ acc, a.name ≠ k.name) →
    absorbAll acc ks = acc ++ ks := by
  intro ks
  induction ks using forest_induct with
  | nil => intro acc _ _; rw [absorbAll]; simp
  | cons n sub rest ihsub ihrest =>
    intro acc hd hacc
    rw [DistinctL] at hd
    obtain ⟨hrest_ne, hdt, hdrest⟩ := hd
    rw [DistinctT] at hdt
    have hsub : absorbAll [] sub = sub := by simpa using ihsub [] hdt (by simp)
    have hnone : updateFirst n (fun c => T.mk c.name (absorbAll c.kids sub)) acc = none :=
      (updateFirst_eq_none_iff n acc).mpr (fun a ha => hacc (T.mk n sub) (by simp) a ha)
    have habs : absorb acc (T.mk n sub) = acc ++ [T.mk n sub] := by
      rw [absorb_none acc n sub hnone, hsub]
    rw [absorbAll, habs, ihrest (acc ++ [T.mk n sub]) hdrest (by
      intro k hk a ha
      rcases List.mem_append.mp ha with ha | ha
      · exact hacc k (by simp [hk]) a ha
      · simp only [List.mem_singleton] at ha
        subst ha
        exact fun e => hrest_ne k hk e.symm)]
    simp

theorem mergeRoot_distinct (t : T) (h : DistinctT t) : mergeRoot t = t := by
  cases t with
  | mk n ks =>
    rw [DistinctT] at h
    simp only [mergeRoot, mergeKids]
    have := absorbAll_eq_append ks [] h (by simp)
    simpa using this

theorem distinctL_replace (pre : List T) (c c' : T) (post : List T) (hn : c'.name = c.name) (hd : DistinctT c')
    (h : DistinctL (pre ++ c :: post)) : DistinctL (pre ++ c' :: post) := by
  rw [distinctL_iff] at h ⊢
  simp only [List.map_append, List.map_cons, hn, List.mem_append, List.mem_cons] at h ⊢
  exact ⟨h.1, fun t ht => by
    rcases ht with ht | rfl | ht
    · exact h.2 t (Or.inl ht)
    · exact hd
    · exact h.2 t (Or.inr (Or.inr ht))⟩

theorem distinctL_snoc (acc : List T) (x : T) (h : DistinctL acc) (hne : ∀ t ∈ acc, t.name ≠ x.name) (hx : DistinctT x) :
    DistinctL (acc ++ [x]) := by
  rw [distinctL_iff] at h ⊢
  simp only [List.map_append, List.map_cons, List.map_nil, List.nodup_append, List.mem_append, List.mem_singleton]
  refine ⟨⟨h.1, by simp, ?_⟩, fun t ht => ht.elim (h.2 t) (· ▸ hx)⟩
  intro a ha b hb
  obtain ⟨t, ht, rfl⟩ := List.mem_map.mp ha
  exact hb ▸ hne t ht

theorem absorbAll_keeps_distinct : ∀ (ks acc : List T), DistinctL acc → DistinctL (absorbAll acc ks) := by
  intro ks
  induction ks using forest_induct with
  | nil => intro acc h; rw [absorbAll]; exact h
  | cons n ks ts ihk ihs =>
    intro acc h
    rw [absorbAll]
    refine ihs _ ?_
    cases hu : updateFirst n (fun c => T.mk c.name (absorbAll c.kids ks)) acc with
    | some acc' =>
      rw [absorb_some acc acc' n ks hu]
      obtain ⟨pre, c, post, rfl, _, _, rfl⟩ := updateFirst_some_spec n _ acc acc' hu
      have hc : DistinctT c := ((distinctL_iff _).mp h).2 c (by simp)
      have hck : DistinctL c.kids := by cases c with | mk cn cks => rw [DistinctT] at hc; exact hc
      refine distinctL_replace pre c _ post rfl ?_ h
      rw [DistinctT]
      exact ihk c.kids hck
    | none =>
      rw [absorb_none acc n ks hu]
      refine distinctL_snoc acc _ h (fun t ht => (updateFirst_eq_none_iff n acc).mp hu t ht) ?_
      rw [DistinctT]
      exact ihk [] trivial

theorem absorb_keeps_distinct : ∀ (t : T) (acc : List T), DistinctL acc → DistinctL (absorb acc t) := by
  intro t acc h
  have := absorbAll_keeps_distinct [t] acc h
  rwa [absorbAll, absorbAll] at this

theorem inj_of_nodup_map {α β : Type} {f : α → β} {l : List α} (h : (l.map f).Nodup) :
    ∀ ⦃x⦄, x ∈ l → ∀ ⦃y⦄, y ∈ l → f x = f y → x = y := by
  have hp := List.pairwise_map.mp h
  exact List.Pairwise.forall_of_forall_of_flip (R := fun a b => f a = f b → a = b) (fun _ _ _ => rfl)
    (hp.imp fun hne he => absurd he hne) (hp.imp fun hne he => absurd he.symm hne)

theorem DistinctL.name_inj {ks : List T} (hd : DistinctL ks) : ∀ k ∈ ks, ∀ t ∈ ks, k.name = t.name → k = t :=
  fun _ hk _ ht => inj_of_nodup_map ((distinctL_iff ks).mp hd).1 hk ht

theorem DistinctL.nodup {ks : List T} (h : DistinctL ks) : ks.Nodup :=
  List.Pairwise.of_map T.name (fun _ _ hne hab => hne (congrArg T.name hab)) ((distinctL_iff ks).mp h).1

end Gtree
