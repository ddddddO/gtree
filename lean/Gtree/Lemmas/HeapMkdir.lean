import Gtree.Generated.Heap.Mkdir
import Gtree.Lemmas.HeapFold
import Gtree.Lemmas.MkOps
/-
  The mkdirer of the source (simple_tree_mkdirer.go with file_considerer.go), translated over the heap and the
  file-system model, is the model's mkdirer: on every heap that holds a tree, its recursion over the children performs,
  in pre-order, exactly the `MkdirAll` / `Create` operations the model's `mkNodes` performs on what is read from the
  nodes, stops at the first refusal, and returns that error.  On every heap it is `foldNodes` with the callback `mkCb`.
-/
namespace Gtree.SrcH
open Gtree Gtree.Go

/-- errors of the model's mkdirer as the errors of the translated source -/
def osErr (e : Option FErr) : Option Src.Err := e.map Src.Err.os

theorem mkdirAll_heap (h : Heap) (fs : FS) (dm : defaultMkdirerSimple) (d : Bytes) :
    defaultMkdirerSimple.mkdirAll h fs dm d = ((fs.mkdirAll d).1, osErr (fs.mkdirAll d).2) := rfl

theorem mkfile_heap (h : Heap) (fs : FS) (dm : defaultMkdirerSimple) (d : Bytes) :
    defaultMkdirerSimple.mkfile h fs dm d = ((fs.create d).1, osErr (fs.create d).2) := by
  unfold defaultMkdirerSimple.mkfile Go.os_Create osErr
  cases (fs.create d).2 <;> simp

/-- the body of the loop of `makeDirectoriesAndFiles` over the children -/
def mkBody (dm : defaultMkdirerSimple) (h : Heap) (fuel : Nat) : Ptr → FS → Go.Ctl FS (Option (FS × Option Src.Err)) :=
  fun child st_ =>
    match (defaultMkdirerSimple.makeDirectoriesAndFiles fuel h st_ dm child) with
    | none => Go.Ctl.ret none
    | some r_ =>
      match r_ with
      | (fs_, err) => if (Option.isSome err) then Go.Ctl.ret (some (fs_, err)) else Go.Ctl.next fs_

/-- what the mkdirer does at one node, as a callback of `foldNodes`: the model's `mkNodes` on what is read there -/
def mkCb (dm : defaultMkdirerSimple) (h : Heap) : Ptr → FS → FS × Option Src.Err :=
  fun p fs => ((mkNodes dm.targetDir dm.fileConsiderer.extensions fs [visitOf h p]).1,
    osErr (mkNodes dm.targetDir dm.fileConsiderer.extensions fs [visitOf h p]).2)

theorem mk_unfold (fuel : Nat) (h : Heap) (fs : FS) (dm : defaultMkdirerSimple) (cur : Ptr) :
    defaultMkdirerSimple.makeDirectoriesAndFiles (fuel + 1) h fs dm cur =
      (match mkCb dm h cur fs with
       | (fs_, some e) => some (fs_, some e)
       | (fs_, none) =>
         match Go.forRange (h cur).children fs_ (mkBody dm h fuel) with
         | Go.Ctl.ret r_ => r_
         | Go.Ctl.brk st_ | Go.Ctl.next st_ => some (st_, none)) := by
  rw [defaultMkdirerSimple.makeDirectoriesAndFiles, isFile_heap]
  dsimp only [mkCb, mkNodes, visitOf, mkdirAll_heap, Go.filepath_Join, Go.strings_TrimSuffix, trimSuffix]
  cases hc : Node.hasChild h cur
  · -- on a leaf the mkdirer has no loop and the loop after the callback is empty; both sides test the results of the same
    -- calls, and `rfl` decides once those are destructured (`simp` walks these nested matches at several times the cost)
    rw [show (h cur).children = [] by simpa [hasChild_children] using hc]
    cases isFileNode dm.fileConsiderer.extensions (h cur).name false
    · rcases fs.mkdirAll (filepathJoin [_, Node.path h cur]) with ⟨fs1, _ | e⟩ <;> rfl
    · rcases fs.mkdirAll _ with ⟨fs1, _ | e⟩
      · dsimp only
        rw [mkfile_heap]
        rcases fs1.create _ with ⟨fs2, _ | e⟩ <;> rfl
      · rfl
  · -- an inner node is no file: the callback does nothing, and the loops are the same
    rfl

theorem mkBody_eq (dm : defaultMkdirerSimple) (h : Heap) (fuel : Nat) :
    mkBody dm h fuel = stepBody fun fs p => defaultMkdirerSimple.makeDirectoriesAndFiles fuel h fs dm p := by
  funext c fs
  rw [mkBody, stepBody]
  rcases defaultMkdirerSimple.makeDirectoriesAndFiles fuel h fs dm c with _ | r <;> rfl

theorem mk_fold (dm : defaultMkdirerSimple) (h : Heap) (fuel : Nat) :
    (fun fs p => defaultMkdirerSimple.makeDirectoriesAndFiles fuel h fs dm p) = foldNodes (mkCb dm h) h fuel := by
  induction fuel with
  | zero => rfl
  | succ fuel ih =>
    funext fs p
    rw [mk_unfold, mkBody_eq, foldNodes, ← ih]
    rcases mkCb dm h p fs with ⟨fs1, _ | e⟩
    · dsimp only
      generalize forRange (h p).children fs1 _ = y
      rcases y with s | s | r <;> rfl
    · rfl

theorem runAll_mk (dm : defaultMkdirerSimple) (h : Heap) (ps : List Ptr) (fs : FS) :
    runAll (mkCb dm h) ps fs = ((mkNodes dm.targetDir dm.fileConsiderer.extensions fs (ps.map (visitOf h))).1,
      osErr (mkNodes dm.targetDir dm.fileConsiderer.extensions fs (ps.map (visitOf h))).2) := by
  induction ps generalizing fs with
  | nil => rfl
  | cons p ps ih =>
    rw [runAll, List.map_cons, ← List.singleton_append, mkNodes_append, mkCb]
    rcases mkNodes dm.targetDir dm.fileConsiderer.extensions fs [visitOf h p] with ⟨fs1, _ | e⟩
    · exact ih fs1
    · rfl

theorem mk_node (dm : defaultMkdirerSimple) (h : Heap) : ∀ (t : T) (fs : FS) (p par : Ptr) (lvl fuel : Nat),
    Repr h t p par lvl → t.size ≤ fuel →
    defaultMkdirerSimple.makeDirectoriesAndFiles fuel h fs dm p =
      some ((mkNodes dm.targetDir dm.fileConsiderer.extensions fs (readNode h t p lvl)).1,
            osErr (mkNodes dm.targetDir dm.fileConsiderer.extensions fs (readNode h t p lvl)).2) := by
  intro t fs p par lvl fuel hr hf
  rw [← ptrs_visits h t p par lvl hr, ← runAll_mk, ← fold_node _ h t fs p par lvl fuel hr hf, ← mk_fold dm]

theorem mk_kids (dm : defaultMkdirerSimple) (h : Heap) : ∀ (ts : List T) (fs : FS) (cs : List Ptr) (par : Ptr) (lvl fuel : Nat),
    ReprKids h ts cs par lvl → sizeList ts ≤ fuel →
    Nonempty (Go.forRange cs fs (mkBody dm h fuel) =
      (match mkNodes dm.targetDir dm.fileConsiderer.extensions fs (readKids h ts cs lvl) with
       | (fs1, some e) => Go.Ctl.ret (some (fs1, some (Src.Err.os e)))
       | (fs1, none) => Go.Ctl.next fs1)) := by
  intro ts fs cs par lvl fuel hr hf
  have hrun := fold_kids (mkCb dm h) h ts fs cs par lvl fuel hr hf
  rw [← mk_fold dm, ← mkBody_eq, runAll_mk, ptrsKids_visits h ts cs par lvl hr] at hrun
  refine ⟨hrun.trans ?_⟩
  rcases mkNodes dm.targetDir dm.fileConsiderer.extensions fs (readKids h ts cs lvl) with ⟨fs1, _ | e⟩ <;> rfl

/-- what is read from each root of a forest held in the heap -/
def rootVisits (h : Heap) : List T → List Ptr → List (List Visit)
  | t :: ts, r :: rs => readNode h t r 1 :: rootVisits h ts rs
  | _, _ => []

/-- errors of the model's `mkdirRoots` as the errors of the translated source -/
def mkErrSrc : Option MkErr → Option Src.Err
  | none => none
  | some .exist => some Src.Err.ErrExistPath
  | some (.os e) => some (Src.Err.os e)

theorem not_isNotExist_stat (fs : FS) (t x : Bytes) :
    (!Go.os_IsNotExist (Go.os_Stat fs (Go.filepath_Join [t, x]))) = rootExists fs t x := by
  unfold rootExists Go.os_Stat Go.filepath_Join
  cases fs.stat (filepathJoin [t, x]) with
  | error e => cases e <;> rfl
  | ok k => rfl

theorem anyRoot_visits (h : Heap) (fs : FS) (target : Bytes) (ts : List T) (rs : List Ptr) (hr : ReprRoots h ts rs) :
    anyRootExists fs target (rootVisits h ts rs) = rs.any (fun r => rootExists fs target (Node.path h r)) := by
  induction ts generalizing rs with
  | nil =>
    obtain rfl : rs = [] := hr
    rfl
  | cons t ts ih =>
    obtain ⟨r, rs', rfl, _, hrs⟩ := hr
    obtain ⟨n, ks⟩ := t
    rw [List.any_cons, ← ih rs' hrs]
    rfl

theorem isExistRoot_heap (dm : defaultMkdirerSimple) (h : Heap) (fs : FS) (rs : List Ptr) :
    defaultMkdirerSimple.isExistRoot h fs dm rs = rs.any (fun r => rootExists fs dm.targetDir (Node.path h r)) := by
  rw [← forRange_any]
  unfold defaultMkdirerSimple.isExistRoot
  simp only [not_isNotExist_stat]
  rfl

theorem rootVisits_flatten (h : Heap) : ∀ (ts : List T) (rs : List Ptr), (rootVisits h ts rs).flatten = readKids h ts rs 1
  | [], _ => rfl
  | _ :: _, [] => rfl
  | t :: ts, r :: rs => congrArg (readNode h t r 1 ++ ·) (rootVisits_flatten h ts rs)

/-- the loop of `mkdir` over the roots is the loop over the children of a node, at level 1 -/
theorem mkRoots_loop (dm : defaultMkdirerSimple) (h : Heap) (ts : List T) (fs : FS) (rs : List Ptr) (fuel : Nat)
    (hr : ReprRoots h ts rs) (hf : sizeList ts ≤ fuel) :
    (match Go.forRange rs fs (mkBody dm h fuel) with
      | Go.Ctl.ret r_ => r_
      | Go.Ctl.brk st_ | Go.Ctl.next st_ => some (st_, none)) =
      some ((mkdirRoots.go dm.targetDir dm.fileConsiderer.extensions fs (rootVisits h ts rs)).1,
            mkErrSrc (mkdirRoots.go dm.targetDir dm.fileConsiderer.extensions fs (rootVisits h ts rs)).2) := by
  obtain ⟨hrun⟩ := mk_kids dm h ts fs rs 0 1 fuel ((ReprRoots_iff_kids h ts rs).mp hr) hf
  rw [hrun, mkdirRoots_go_runOps, rootVisits_flatten, ← mkNodes_eq_runOps]
  rcases mkNodes dm.targetDir dm.fileConsiderer.extensions fs (readKids h ts rs 1) with ⟨fs1, _ | e⟩ <;> rfl

theorem mkdir_heap (dm : defaultMkdirerSimple) (h : Heap) (ts : List T) (fs : FS) (rs : List Ptr) (fuel : Nat)
    (hr : ReprRoots h ts rs) (hf : sizeList ts ≤ fuel) :
    defaultMkdirerSimple.mkdir fuel h fs dm rs =
      some ((mkdirRoots fs dm.targetDir dm.fileConsiderer.extensions (rootVisits h ts rs)).1,
            mkErrSrc (mkdirRoots fs dm.targetDir dm.fileConsiderer.extensions (rootVisits h ts rs)).2) := by
  have hloop := mkRoots_loop dm h ts fs rs fuel hr hf
  unfold defaultMkdirerSimple.mkdir mkdirRoots
  rw [isExistRoot_heap, ← anyRoot_visits h fs dm.targetDir ts rs hr]
  cases anyRootExists fs dm.targetDir (rootVisits h ts rs)
  · exact hloop
  · rfl

end Gtree.SrcH
