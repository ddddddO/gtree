import Gtree.Lemmas.HeapGrower
import Gtree.Lemmas.HeapMkdir
import Gtree.Lemmas.Render
/-
  The translated pieces composed as the tree handlers compose them: grow (with validation), then mkdir, on the same
  nodes.  `grow_then_mkdir` states the two results the model's `mkdirRootsApi` (Model/Api.lean, `dry := false`) branches
  on — the grower's error is `validateVisits` of all roots' visits, and without one the mkdirer is `mkdirRoots` on those
  visits — not an equation with `mkdirRootsApi` itself.
-/
namespace Gtree.SrcH
open Gtree Gtree.Go

theorem rootVisits_of_read (f : Fmt) (h : Heap) : ∀ (ts : List T) (rs : List Ptr), ReprRoots h ts rs →
    readKids h ts rs 1 = ts.flatMap (growRoot f) → rootVisits h ts rs = ts.map (growRoot f) := by
  intro ts rs hr hrd
  induction ts generalizing rs with
  | nil => exact (hr : rs = []) ▸ rfl
  | cons t ts ih =>
    obtain ⟨r, rs', rfl, hrr, hrs⟩ := hr
    rw [readKids, List.flatMap_cons] at hrd
    have hlen : (readNode h t r 1).length = (growRoot f t).length := by
      rw [readNode_length h t r 0 1 hrr, growRoot_length]
    obtain ⟨h1, h2⟩ := List.append_inj hrd hlen
    rw [rootVisits, List.map_cons, h1, ih rs' hrs h2]

theorem grow_then_mkdir (dg : defaultGrowerSimple) (dm : defaultMkdirerSimple) (ts : List T) (h : Heap) (fs : FS)
    (rs : List Ptr) (fuel : Nat) (hv : dg.enabledValidation = true)
    (hr : ReprRoots h ts rs) (hnd : (ptrsKids h ts rs).Nodup) (hf : 2 * sizeList ts + 1 ≤ fuel) :
    ∃ h', defaultGrowerSimple.grow fuel h dg rs =
        some (h', (validateVisits (ts.map (growRoot (fmtOf dg))).flatten).map verrSrc) ∧
      (validateVisits (ts.map (growRoot (fmtOf dg))).flatten = none →
        defaultMkdirerSimple.mkdir fuel h' fs dm rs =
          some ((mkdirRoots fs dm.targetDir dm.fileConsiderer.extensions (ts.map (growRoot (fmtOf dg)))).1,
                mkErrSrc (mkdirRoots fs dm.targetDir dm.fileConsiderer.extensions (ts.map (growRoot (fmtOf dg)))).2)) := by
  obtain ⟨h', hrun, hrest⟩ := grow_forest dg ts h rs fuel hr hnd hf
  rw [expErr, if_pos hv] at hrun hrest
  rw [← List.flatMap_def]
  refine ⟨h', hrun, fun hnone => ?_⟩
  obtain ⟨hs, _, hrd⟩ := hrest (by rw [hnone]; rfl)
  have hr' := ReprRoots_shape hs ts rs hr
  rw [mkdir_heap dm h' ts fs rs fuel hr' (fuel_of_fuel2 hf), rootVisits_of_read (fmtOf dg) h' ts rs hr' hrd]

end Gtree.SrcH
