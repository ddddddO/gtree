import Gtree.Generated.Heap.Verify
import Gtree.Lemmas.HeapRepr
/-
  The verifier's collection of the required paths (simple_tree_verifier.go: `fillDirsMarkdown`, the recursion that fills
  the set `dirsMarkdown`), translated over the heap (the `map[string]struct{}` is the list of its elements in insertion
  order): on every heap that holds a tree it inserts, in pre-order, exactly the target joined with the path of every
  node.  `wantOf` is the list of those paths, the local `want` of the model's `verifyRoot`; `insertAll` folds the
  insertions (`Go.setInsert`: a path already held is not added again) over it: `fill_node` states `insertAll dirs (wantOf …)`, which is
  `dirs ++ wantOf …` only when no path is met twice.
-/
namespace Gtree.SrcH
open Gtree Gtree.Go

/-- the set after inserting the elements of `xs` in order -/
def insertAll (s : List Bytes) (xs : List Bytes) : List Bytes := xs.foldl Go.setInsert s

theorem insertAll_append (s : List Bytes) (a b : List Bytes) : insertAll s (a ++ b) = insertAll (insertAll s a) b := by
  simp [insertAll, List.foldl_append]

/-- the body of the loop of `fillDirsMarkdown` over the children's indices -/
def fillBody (h : Heap) (dv : defaultVerifierSimple) (node : Nat) (fuel : Nat) :
    Int → List Bytes → Go.Ctl (List Bytes) (Option (List Bytes × Option Src.Err)) :=
  fun i st_ =>
    match (defaultVerifierSimple.fillDirsMarkdown fuel h dv (Go.idxPtr (h node).children i) st_) with
    | none => Go.Ctl.ret none
    | some r_ =>
      match r_ with
      | (dirs, err) => if (Option.isSome err) then Go.Ctl.ret (some (dirs, err)) else Go.Ctl.next dirs

theorem fill_unfold (fuel : Nat) (h : Heap) (dv : defaultVerifierSimple) (node : Nat) (dirs : List Bytes) :
    defaultVerifierSimple.fillDirsMarkdown (fuel + 1) h dv node dirs =
      (match Go.forRange (Go.indices (h node).children)
          (Go.setInsert dirs (Go.filepath_Join [dv.targetDir, Node.path h node])) (fillBody h dv node fuel) with
       | Go.Ctl.ret r_ => r_
       | Go.Ctl.brk st_ | Go.Ctl.next st_ => some (st_, none)) := by
  rfl

/-- the paths a tree requires under the target -/
def wantOf (target : Bytes) (vs : List Visit) : List Bytes := vs.map (fun v => filepathJoin [target, v.path])

theorem fill_step (h : Heap) (dv : defaultVerifierSimple) (n : Bytes) (ks : List T) (p : Nat) (lvl fuel : Nat)
    (dirs : List Bytes)
    (hk : ∀ dirs1, Nonempty (Go.forRange ((List.range' 0 (h p).children.length).map Int.ofNat) dirs1 (fillBody h dv p fuel) =
      Go.Ctl.next (insertAll dirs1 (wantOf dv.targetDir (readKids h ks (h p).children (lvl + 1)))))) :
    defaultVerifierSimple.fillDirsMarkdown (fuel + 1) h dv p dirs =
      some (insertAll dirs (wantOf dv.targetDir (readNode h (.mk n ks) p lvl)), none) := by
  obtain ⟨hrun⟩ := hk (Go.setInsert dirs (Go.filepath_Join [dv.targetDir, Node.path h p]))
  rw [fill_unfold, indices_eq, hrun, readNode]
  rfl

theorem fill_kids (h : Heap) (dv : defaultVerifierSimple) (p : Nat) (fuel : Nat) : ∀ (ts : List T) (pre cids : List Nat)
    (lvl : Nat) (dirs : List Bytes), ReprKids h ts cids p lvl → (h p).children = pre ++ cids → sizeList ts ≤ fuel →
    Nonempty (Go.forRange ((List.range' pre.length cids.length).map Int.ofNat) dirs (fillBody h dv p fuel) =
      Go.Ctl.next (insertAll dirs (wantOf dv.targetDir (readKids h ts cids lvl)))) := by
  intro ts pre cids lvl dirs hr
  induction ts, cids, p, lvl, hr using reprKids_induct generalizing fuel pre dirs with
  | nil => exact fun _ _ => ⟨rfl⟩
  | cons n ks ts c cs' p lvl _ _ _ _ ihk ihs =>
    intro hpc hf
    obtain ⟨fuel, rfl, hfk, hfs⟩ := fuel_cons hf
    have hidx : Go.idxPtr (h p).children (Int.ofNat pre.length) = c := by rw [hpc]; exact idxPtr_at pre c cs'
    have h1 := fill_step h dv n ks c lvl fuel dirs fun dirs1 => ihk fuel [] dirs1 rfl hfk
    obtain ⟨h2⟩ := ihs (fuel + 1) (pre ++ [c]) (insertAll dirs (wantOf dv.targetDir (readNode h (.mk n ks) c lvl)))
      (by rw [hpc]; simp) hfs
    rw [List.length_append, List.length_singleton] at h2
    refine ⟨?_⟩
    simp only [List.length_cons, List.range'_succ, List.map_cons, Go.forRange]
    simp only [fillBody, hidx, h1, Option.isSome_none, Bool.false_eq_true, if_false]
    rw [h2, readKids, wantOf, wantOf, wantOf, List.map_append, insertAll_append]

theorem fill_node (h : Heap) (dv : defaultVerifierSimple) : ∀ (t : T) (p par : Nat) (lvl fuel : Nat) (dirs : List Bytes),
    Repr h t p par lvl → t.size ≤ fuel →
    defaultVerifierSimple.fillDirsMarkdown fuel h dv p dirs =
      some (insertAll dirs (wantOf dv.targetDir (readNode h t p lvl)), none) := by
  intro ⟨n, ks⟩ p par lvl fuel dirs hr hf
  obtain ⟨fuel, rfl, hfk⟩ := fuel_node hf
  exact fill_step h dv n ks p lvl fuel dirs fun dirs1 => fill_kids h dv p fuel ks [] _ (lvl + 1) dirs1 hr.kids rfl hfk

end Gtree.SrcH
