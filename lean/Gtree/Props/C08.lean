import Gtree.Lemmas.HeapVerify
import Gtree.Lemmas.MkInterleave
import Gtree.Lemmas.MkdirExact
import Gtree.Lemmas.MkdirVerify
import Gtree.Lemmas.SourceRefines
import Gtree.Lemmas.TreeFacts
import Gtree.Lemmas.VerifyExt
/-
  C08 — verify reports exactly the differences (over the finite-map file system model).
  `verifyRootsApi` returns only an `Option Err`: it has no file-system result, i.e. it cannot change
  the file system (read-only by type).  The verdict is nil iff no root has a difference (a missing path, or – strict
  only – an extra entry); the error is that of the first root that differs and lists exactly the differences; a
  forest just created by Mkdir, in the simple mode or under any schedule of the massive mode, verifies, strictly
  too; the verdict depends on the file system only through `lookup`.  Then the ties to the source and the
  regenerated facts.
-/
namespace Gtree

/-- a root is clean: it verifies with nothing missing and (strict only) nothing extra -/
def rootClean (fs : FS) (target : Bytes) (strict : Bool) (vs : List Visit) : Prop :=
  ∃ d, verifyRoot fs target vs = .ok d ∧ d.missing = [] ∧ (strict = true → d.extra = [])

theorem rootClean_iff (fs : FS) (target : Bytes) (strict : Bool) (vs : List Visit) :
    rootClean fs target strict vs ↔ verifyOne fs target strict vs = none := by
  unfold rootClean verifyOne
  cases verifyRoot fs target vs with
  | error e => simp
  | ok d => cases strict <;> simp [and_comm]

/-- nil iff every root is clean -/
theorem C08_nil_iff (fs : FS) (target : Bytes) (strict : Bool) (roots : List (List Visit)) :
    verifyRoots fs target strict roots = none ↔ ∀ vs ∈ roots, rootClean fs target strict vs := by
  simp only [verifyRoots_eq_findSome, List.findSome?_eq_none_iff, rootClean_iff]

/-- the error reported is the difference of the first root that is not clean -/
theorem C08_first_differing_root (fs : FS) (target : Bytes) (strict : Bool) :
    ∀ (roots : List (List Visit)) (st : Bool) (d : VerifyDiff),
      verifyRoots fs target strict roots = some (.diff st d) →
      ∃ pre vs post, roots = pre ++ vs :: post ∧ (∀ u ∈ pre, rootClean fs target strict u) ∧
        verifyRoot fs target vs = .ok d ∧ st = strict := by
  intro roots st d h
  rw [verifyRoots_eq_findSome, List.findSome?_eq_some_iff] at h
  obtain ⟨pre, vs, post, hr, hvs, hpre⟩ := h
  refine ⟨pre, vs, post, hr, fun u hu => (rootClean_iff ..).mpr (hpre u hu), ?_⟩
  unfold verifyOne at hvs
  cases hv : verifyRoot fs target vs with
  | error e => simp [hv] at hvs
  | ok d0 =>
    simp only [hv] at hvs
    split at hvs
    · simp only [Option.some.injEq, VfErr.diff.injEq] at hvs
      exact ⟨by rw [hvs.2], hvs.1.symm⟩
    · cases hvs

/-- for a root directory that exists: the missing list is exactly the node paths that are absent … -/
theorem C08_missing_exact (fs : FS) (target : Bytes) (r : Visit) (vs : List Visit)
    (hdir : fs.stat (filepathJoin [target, r.path]) = .ok .dir) (d : VerifyDiff)
    (h : verifyRoot fs target (r :: vs) = .ok d) (p : Bytes) :
    p ∈ d.missing ↔
      (p ∈ (r :: vs).map (fun v => filepathJoin [target, v.path]) ∧
       p ∉ filepathJoin [target, r.path] :: fs.under (filepathJoin [target, r.path])) := by
  simp only [verifyRoot, List.head?_cons, hdir, Except.ok.injEq] at h
  subst h
  simp only [List.mem_filter, List.contains_eq_mem, Bool.not_eq_eq_eq_not, Bool.not_true,
    decide_eq_false_iff_not, List.map_cons]

/-- … and (strict) the extra list is exactly the present entries that are not node paths -/
theorem C08_extra_exact (fs : FS) (target : Bytes) (r : Visit) (vs : List Visit)
    (hdir : fs.stat (filepathJoin [target, r.path]) = .ok .dir) (d : VerifyDiff)
    (h : verifyRoot fs target (r :: vs) = .ok d) (p : Bytes) :
    p ∈ d.extra ↔
      (p ∈ filepathJoin [target, r.path] :: fs.under (filepathJoin [target, r.path]) ∧
       p ∉ (r :: vs).map (fun v => filepathJoin [target, v.path])) := by
  simp only [verifyRoot, List.head?_cons, hdir, Except.ok.injEq] at h
  subst h
  simp only [List.mem_filter, List.contains_eq_mem, Bool.not_eq_eq_eq_not, Bool.not_true,
    decide_eq_false_iff_not, List.map_cons]

/-- a missing root directory: every node path is reported missing (as in the repaired tree: D13 of DESIGN §7) -/
theorem C08_missing_root_lists_all (fs : FS) (target : Bytes) (r : Visit) (vs : List Visit)
    (hmiss : fs.stat (filepathJoin [target, r.path]) = .error .notExist) :
    verifyRoot fs target (r :: vs) = .ok ⟨[], (r :: vs).map (fun v => filepathJoin [target, v.path])⟩ := by
  simp [verifyRoot, hmiss]

/-- a forest just created by Mkdir, with any extension list, verifies – strictly as well -/
theorem C08_mkdir_then_verify (f : Fmt) (exts : List Bytes) (ts : List Bytes) (roots : List T) (fs : FS) (strict : Bool)
    (hts : GoodList ts) (hg : AllGoodL roots) (hd : DistinctL roots) (hc : fs.Closed) (hcanon : fs.Canon)
    (hnf : ∀ i < ts.length, notFile fs (key (ts.take (i + 1))))
    (hnone : anyRootExists fs (key ts) (roots.map (growRoot f)) = false) :
    verifyRoots (mkdirRoots fs (key ts) exts (roots.map (growRoot f))).1 (key ts) strict (roots.map (growRoot f)) = none :=
  have h := Fresh.of_closed f exts hts hg hd hc hnf hnone
  verifyRoots_of_exact f strict h hc hcanon (mkdirRoots_exact f h hnone).2

/-- its hypotheses are satisfiable (the empty file system is closed and canonical; see the example in Props/C06) -/
example : FS.Closed [] ∧ FS.Canon [] :=
  ⟨fun _ _ h => absurd rfl h, fun _ h => absurd rfl h⟩

/-- the verifier's verdict depends on the file system only through `lookup` -/
theorem C08_verdict_depends_on_lookup_only (a b : FS) (h : ∀ p, a.lookup p = b.lookup p) (target : Bytes) (strict : Bool)
    (roots : List (List Visit)) :
    verifyRoots a target strict roots = none ↔ verifyRoots b target strict roots = none := by
  simp only [verifyRoots_eq_findSome, List.findSome?_eq_none_iff, verifyOne_none_ext h]

/-- **"A tree just created by Mkdir with any extension list verifies strictly" — also when it was created in
    the massive mode, whatever the schedule**: after ANY interleaving of the roots' file-system operations the
    forest verifies, strictly as well, against the file system they left. -/
theorem C08_mkdir_then_verify_massive (f : Fmt) (exts : List Bytes) (ts : List Bytes) (roots : List T) (fs : FS) (strict : Bool)
    (hts : GoodList ts) (hg : AllGoodL roots) (hd : DistinctL roots) (hc : fs.Closed) (hcanon : fs.Canon)
    (hnf : ∀ i < ts.length, notFile fs (key (ts.take (i + 1))))
    (hnone : anyRootExists fs (key ts) (roots.map (growRoot f)) = false)
    (r : List EOp) (hint : Interleave (roots.map (fun t => opsTree exts ts t)) r) :
    ∃ s, runE fs r = (s, none) ∧ verifyRoots s (key ts) strict (roots.map (growRoot f)) = none := by
  have h := Fresh.of_closed f exts hts hg hd hc hnf hnone
  obtain ⟨s, hrun, hex⟩ := h.interleave_exact hint
  exact ⟨s, hrun, verifyRoots_of_exact f strict h hc hcanon hex⟩

/-- Tie to the source: the verdict on one root — fail iff a required path is missing or, strictly, an extra entry
    exists — is `defaultVerifierSimple.handleErr` (simple_tree_verifier.go, translated on this run; the massive
    verifier's workers call the same method). -/
theorem C08_verdict_is_the_source (strict : Bool) (dir : Bytes) (extra missing : List Bytes) :
    Src.defaultVerifierSimple.handleErr ⟨strict, dir⟩ extra missing =
      if (strict && !extra.isEmpty) || !missing.isEmpty then some (Src.Err.verifyError strict extra missing) else none :=
  verifier_handleErr_src strict dir extra missing

/-- Tie to the source, pointer code included (heap mode of /verif/translate, regenerated on every run): WHICH PATHS VERIFY
    REQUIRES.  `fillDirsMarkdown` of simple_tree_verifier.go — the recursion that fills the set `dirsMarkdown` before the
    directory is looked at — translated over an explicit heap (the `map[string]struct{}` as the list of its elements in
    insertion order).  For every heap that holds a tree, every target and every fuel above the tree's size it inserts,
    in pre-order, exactly the target joined with the path of every node: the model's `want` of `verifyRoot`
    (`SrcH.wantOf` is that expression), against which `C08_missing_exact` and `C08_extra_exact` are stated.  The
    directory walk itself (`fs.WalkDir` with its callback) stays hand-modelled; the verdict is `C08_verdict_is_the_source`. -/
theorem C08_required_paths_are_the_source (h : SrcH.Heap) (dv : SrcH.defaultVerifierSimple) (t : T) (p par : Nat)
    (lvl fuel : Nat) (dirs : List Bytes) (hr : SrcH.Repr h t p par lvl) (hf : t.size ≤ fuel) :
    SrcH.defaultVerifierSimple.fillDirsMarkdown fuel h dv p dirs =
      some (SrcH.insertAll dirs ((SrcH.readNode h t p lvl).map (fun v => filepathJoin [dv.targetDir, v.path])), none) :=
  SrcH.fill_node h dv t p par lvl fuel dirs hr hf

/-- **C08 (facts: composition).**  Both Verify operations of the simple tree enable validation, grow, and call the
    verifier, which is the `defaultVerifierSimple` built from the configured target directory and strictness. -/
theorem C08_facts_verify_grows_then_verifies :
    lookupL "verify" Facts.treeSimpleCalls = ["grower.enableValidation", "grower.grow", "verifier.verify"] ∧
    lookupL "verifyProgrammably" Facts.treeSimpleCalls = ["grower.enableValidation", "grower.grow", "verifier.verify"] ∧
    lookupL "verifier" Facts.treeSimpleFields = ["verifierFactory", "cfg.targetDir", "cfg.strictVerify"] ∧
    lookupL "verifierFactory" Facts.factoryCtors = ["newVerifierSimple"] ∧
    lookupL "newVerifierSimple" Facts.ctorReturns = ["defaultVerifierSimple"] :=
  -- the numbers are rows of `expectedCalls`, `expectedParts`, `expectedCtors` (Lemmas/TreeFacts.lean); `rfl` checks the row
  ⟨tree_calls 2 rfl, tree_calls 3 rfl, (tree_parts 3 rfl).1, (tree_parts 3 rfl).2, tree_ctors 5 rfl⟩

end Gtree
