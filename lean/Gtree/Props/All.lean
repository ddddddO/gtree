import Gtree.Props.C01
import Gtree.Props.C02
import Gtree.Props.C03
import Gtree.Props.C04
import Gtree.Props.C05
import Gtree.Props.C06
import Gtree.Props.C07
import Gtree.Props.C08
import Gtree.Props.C09
import Gtree.Props.C10
import Gtree.Props.C11
import Gtree.Props.C12
import Gtree.Props.C13
import Gtree.Props.C14
import Gtree.Props.C15
import Gtree.Props.C16
import Gtree.Props.C17
/-
  All property files.  Each `Props/Cxx.lean` imports by name every `Lemmas` module from which it calls a theorem, in
  alphabetical order; the model, the specifications and the generated modules come with those.
-/
