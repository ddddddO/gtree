import Gtree.Lemmas.Arena
import Gtree.Lemmas.Distinct
import Gtree.Lemmas.EntryFacts
import Gtree.Lemmas.HeapArena
import Gtree.Lemmas.HeapGrowSpread
import Gtree.Lemmas.HeapPrint
import Gtree.Lemmas.RoundTrip
import Gtree.Lemmas.SourceRefines
import Gtree.Lemmas.TreeFacts
import Gtree.Lemmas.Validate
/-
  C03 — programmatically built trees behave like the equivalent Markdown.
  A From-Root call first checks its node.  On a tree with pairwise different sibling names it gives what the Markdown
  call gives on any valid spelling of that tree: text, formatted tree, walk, mkdir, verify; NewRoot / Add build only
  such trees (by the arena invariant of Lemmas/Arena.lean), and so does the generator.  Ties to the translated source:
  the check of the node, the one-pass text path of `OutputFromRoot` against "grow, then print", and `NewRoot` / `Add`
  over a heap as the arena's operations; then the regenerated facts about which code the entry points run.
-/
namespace Gtree

/-- `Add` of a name that already exists under the parent returns the existing child and changes nothing -/
theorem C03_add_existing (s : Store) (pid : Nat) (name : Bytes) (p : PNode) (c : Nat)
    (hp : s.get? pid = some p)
    (hc : s.findChild p name = some c) :
    s.add pid name = (s, some c) :=
  s.add_old pid name p c hp hc

/-- a nil node is rejected with ErrNilNode before anything else happens: the store is unchanged and
    `run` (the operation proper: writing, creating, calling back) is never invoked -/
theorem C03_nil_rejected {α} (s : Store) (run : T → α) (fail : Err → α) :
    s.fromRoot none run fail = (s, fail .nilNode) := by
  simp [Store.fromRoot, Store.validateRoot]

/-- a node that is not a root is rejected with ErrNotRoot, likewise -/
theorem C03_not_root_rejected {α} (s : Store) (id : Nat) (n : PNode) (run : T → α) (fail : Err → α)
    (hn : s.get? id = some n) (hh : n.hierarchy ≠ 1) :
    s.fromRoot (some id) run fail = (s, fail .notRoot) := by
  have : (n.hierarchy == 1) = false := by simpa using hh
  simp [Store.fromRoot, Store.validateRoot, hn, this]

/-- a root runs the operation on the tree below it -/
theorem C03_root_runs {α} (s : Store) (id : Nat) (n : PNode) (run : T → α) (fail : Err → α)
    (hn : s.get? id = some n) (hh : n.hierarchy = 1) :
    (s.fromRoot (some id) run fail).2 = run (s.tree id) := by
  simp [Store.fromRoot, Store.validateRoot, hn, hh]

/-- From-Root text output of a tree with distinct sibling names (what NewRoot/Add build) equals
    From-Markdown text output of any valid spelling of that tree – bytes and error, for every
    branch strings and every writer fault -/
theorem C03_root_eq_markdown_text (t : T) (ht : DistinctT t) (s : Spelling) (fmt : Fmt) (wf : WFault)
    (hv : s.Valid (items 1 [t])) :
    outputIter (textJob fmt) { doc := spell [t] s } wf = outputRootText fmt t wf := by
  obtain ⟨herr, hroots⟩ := generate_spell_distinct [t] (by simpa using ht) s hv
  have hr : rootsOf { doc := spell [t] s } = [t] := by simp [rootsOf, herr, hroots]
  rw [outputIter_eq, hr, herr]
  -- one root, not validated: the writes of its chunks, with the write error if one of them fails
  rcases he : emit wf (textChunks fmt t) 0 with ⟨acc, _ | _⟩ <;> simp [runRoots, textJob, outputRootText, he]

/-- … and the formatted tree handed to the JSON/YAML/TOML encoders is the same -/
theorem C03_root_eq_markdown_formatted (t : T) (ht : DistinctT t) (s : Spelling) (hv : s.Valid (items 1 [t])) :
    outputFormatted { doc := spell [t] s } = ([toFormatted t], none) := by
  obtain ⟨herr, hroots⟩ := generate_spell_distinct [t] (by simpa using ht) s hv
  simp [outputFormatted, herr, hroots]

/-- … and the walk -/
theorem C03_root_eq_markdown_walk (t : T) (ht : DistinctT t) (s : Spelling) (fmt : Fmt) (k : Option Nat)
    (hv : s.Valid (items 1 [t])) :
    walkMd fmt { doc := spell [t] s } k = walkRoot fmt t k := by
  obtain ⟨herr, hroots⟩ := generate_spell_distinct [t] (by simpa using ht) s hv
  simp [walkMd, walkRoot, herr, hroots]

/-- … and mkdir (every extension list, target, file-system state, dry-run or not): file system and error -/
theorem C03_root_eq_markdown_mkdir (t : T) (ht : DistinctT t) (s : Spelling) (fmt : Fmt)
    (exts : List Bytes) (target : Bytes) (dry : Bool) (fs : FS) (hv : s.Valid (items 1 [t])) :
    (mkdirMd fmt exts target dry { doc := spell [t] s } fs).fs = (mkdirRootsApi fmt exts target dry [t] fs).fs ∧
    (mkdirMd fmt exts target dry { doc := spell [t] s } fs).err = (mkdirRootsApi fmt exts target dry [t] fs).err := by
  obtain ⟨herr, hroots⟩ := generate_spell_distinct [t] (by simpa using ht) s hv
  simp [mkdirMd, herr, hroots]

/-- … and verify (every target and file-system state, strict or not) -/
theorem C03_root_eq_markdown_verify (t : T) (ht : DistinctT t) (s : Spelling) (fmt : Fmt)
    (target : Bytes) (strict : Bool) (fs : FS) (hv : s.Valid (items 1 [t])) :
    verifyMd fmt target strict { doc := spell [t] s } fs = verifyRootsApi fmt target strict [t] fs := by
  obtain ⟨herr, hroots⟩ := generate_spell_distinct [t] (by simpa using ht) s hv
  simp [verifyMd, herr, hroots]

/-- non-vacuity: a three-level tree with distinct sibling names -/
example : DistinctT (.mk [0x72] [.mk [0x61] [.mk [0x63] []], .mk [0x62] []]) := by
  simp [DistinctT, DistinctL, T.name]

/-- whatever sequence of NewRoot / Add calls built the arena, the tree below any node has pairwise distinct
    sibling names at every level: the hypothesis `DistinctT` of the equivalence theorems above holds for
    every tree a client can hand to a From-Root entry point (arena invariant, `Lemmas/Arena.lean`) -/
theorem C03_built_trees_distinct (ops : List BuildOp) (id : Nat) :
    DistinctT ((ops.foldl Store.apply {}).tree id) :=
  Store.tree_distinct _ (Store.wf_reachable ops) id

/-- the same for what the generator builds from a document: merged roots have distinct sibling names -/
theorem C03_generated_trees_distinct (t : T) : DistinctT (mergeRoot t) := by
  obtain ⟨n, ks⟩ := t
  rw [mergeRoot, mergeKids, DistinctT]
  exact absorbAll_keeps_distinct ks [] trivial

/-- From-Root text output of any tree built by NewRoot / Add equals the output of a Markdown spelling of it -/
theorem C03_built_eq_markdown_text (ops : List BuildOp) (id : Nat) (s : Spelling) (fmt : Fmt) (wf : WFault)
    (hv : s.Valid (items 1 [(ops.foldl Store.apply {}).tree id])) :
    outputIter (textJob fmt) { doc := spell [(ops.foldl Store.apply {}).tree id] s } wf
      = outputRootText fmt ((ops.foldl Store.apply {}).tree id) wf :=
  C03_root_eq_markdown_text _ (C03_built_trees_distinct ops id) s fmt wf hv

/-- non-vacuity: NewRoot r; Add r a; Add r b; Add r a (existing); Add a c -/
example : ([BuildOp.newRoot [0x72], .add 0 [0x61], .add 0 [0x62], .add 0 [0x61], .add 1 [0x63]].foldl Store.apply {}).tree 0
    = .mk [0x72] [.mk [0x61] [.mk [0x63] []], .mk [0x62] []] := by
  rfl

/-- Tie to the source: the sentinel decision of every From-Root entry point is `validateTreeRoot`
    (tree_handler_programmably.go, translated on this run): a nil node gives `ErrNilNode`, a node that is not a root
    `ErrNotRoot`, a root no error — the model's `Store.validateRoot`. -/
theorem C03_root_validation_is_the_source (s : Store) (i : Nat) :
    Src.validateTreeRoot none = some .ErrNilNode ∧
    Src.validateTreeRoot ((s.get? i).map pnodeSrc) = (s.validateRoot (some i)).bind sentinelSrc :=
  ⟨rfl, validateTreeRoot_src s i⟩

/-- Fact regenerated from the sources on this run: under both names of every entry point, Output builds its configuration
    with `newConfig` and Mkdir / Verify / Walk with `newConfigWithoutEncode`.  (Stated again, each with its own reading,
    as `C04_`, `C05_`, `C06_` and `C13_facts_entry_points_configuration`; likewise `…_facts_aliases_identical` below.) -/
theorem C03_facts_entry_points_configuration : Facts.entryConfig = expectedEntryConfig := entryConfig_as_expected

/-- Fact regenerated from the sources on this run: every deprecated alias (`Output`, `Mkdir`, `Verify`, `Walk`,
    `OutputProgrammably`, `MkdirProgrammably`, `VerifyProgrammably`, `WalkProgrammably`, `WalkIterProgrammably`) has, word for
    word, the body of the function that replaces it. -/
theorem C03_facts_aliases_identical : Facts.aliasBodiesEqual.all (fun e => e.2) = true := aliases_identical

/-- Tie to the source, pointer code included (heap mode of /verif/translate, regenerated on every run): the TEXT PATH OF
    `OutputFromRoot` — simple_tree_grow_spreader.go `growAndSpread` / `assembleAndPrint`, which assembles a node's branch
    (the grower's `assembleBranch`, promoted from the embedded grower) and prints its row in ONE pass — against the
    two-pass "grow, then print" the From-Markdown batch path runs (`defaultGrowerSimple.grow`, then
    `defaultSpreaderSimple.spread`), all translated over an explicit heap with the caller's writer as a fault oracle.
    For every heap that holds a forest (all pointers different), every four branch strings, every writer and every
    fuel above `2·size + 1`, both hand the writer the same `Write`s — the model's `textChunks` of every root, until a
    `Write` fails — and return the same error. -/
theorem C03_root_text_path_is_the_source (dgs : SrcH.defaultGrowSpreaderSimple) (ds : SrcH.defaultSpreaderSimple)
    (hv : dgs.defaultGrowerSimple.enabledValidation = false)
    (ts : List T) (h : SrcH.Heap) (w : Go.Writer) (rs : List Go.Ptr) (fuel : Nat)
    (hr : SrcH.ReprRoots h ts rs) (hnd : (SrcH.ptrsKids h ts rs).Nodup) (hf : 2 * sizeList ts + 1 ≤ fuel) :
    ∃ h1 h2,
      SrcH.defaultGrowSpreaderSimple.growAndSpread fuel h w dgs rs =
        some (h1, (SrcH.writeAll w (ts.flatMap (textChunks (SrcH.fmtOf dgs.defaultGrowerSimple)))).1,
                  (SrcH.writeAll w (ts.flatMap (textChunks (SrcH.fmtOf dgs.defaultGrowerSimple)))).2) ∧
      SrcH.defaultGrowerSimple.grow fuel h dgs.defaultGrowerSimple rs = some (h2, none) ∧
      SrcH.defaultSpreaderSimple.spread fuel h2 w ds rs =
        some (SrcH.writeAll w (ts.flatMap (textChunks (SrcH.fmtOf dgs.defaultGrowerSimple)))) := by
  obtain ⟨h1, hrun1, _⟩ := SrcH.growAndSpread_forest dgs hv ts h w rs fuel hr hnd hf
  obtain ⟨h2, hgrow, hspread⟩ := SrcH.grow_then_spread dgs.defaultGrowerSimple ds hv ts h w rs fuel hr hnd hf
  exact ⟨h1, h2, hrun1, hgrow, hspread⟩

/-- Tie to the source, pointer code included (heap mode of /verif/translate, regenerated on every run): `NewRoot` and
    `(*Node).Add` of tree_handler_programmably.go with `newNode` of node.go and the package-level `idxCounter`, translated
    over an explicit heap (`&Node{…}` takes the allocator's next pointer; the counter is a world component), ARE the
    operations of the arena model (`Model/Programmable.lean`): with node `i` of the arena at pointer `i + 1`
    (`SrcH.StoreRel`), `NewRoot` is `Store.newRoot` and `Add` on an allocated node is `Store.add` — the existing child of
    that name (the FIRST one) is returned and nothing is written, or a new node one level deeper, stamped with the next
    counter value, becomes the parent's last child — and the representation is kept.  The arena theorems of this file
    (`C03_add_existing`, `C03_built_trees_distinct`, …) are therefore about this code.  (`C13_arena_is_the_source` is the
    same statement.) -/
theorem C03_arena_is_the_source (h : SrcH.Heap) (al : Nat) (idx : Int) (s : Store) (hrel : SrcH.StoreRel h al idx s) :
    (∀ name, (SrcH.NewRoot h al idx name).2.2.2 = (s.newRoot name).2 + 1 ∧
      SrcH.StoreRel (SrcH.NewRoot h al idx name).1 (SrcH.NewRoot h al idx name).2.1 (SrcH.NewRoot h al idx name).2.2.1
        (s.newRoot name).1) ∧
    (∀ pid name, pid < s.nodes.length →
      (s.add pid name).2 = some ((SrcH.Node.Add h al idx (pid + 1) name).2.2.2 - 1) ∧
      (SrcH.Node.Add h al idx (pid + 1) name).2.2.2 ≠ 0 ∧
      SrcH.StoreRel (SrcH.Node.Add h al idx (pid + 1) name).1 (SrcH.Node.Add h al idx (pid + 1) name).2.1
        (SrcH.Node.Add h al idx (pid + 1) name).2.2.1 (s.add pid name).1) :=
  -- a translated call returns (heap, allocator, counter, pointer): `.1`, `.2.1`, `.2.2.1`, `.2.2.2`
  ⟨fun name => SrcH.NewRoot_refines h al idx s name hrel, fun pid name hp => SrcH.Add_refines h al idx s pid name hrel hp⟩

/-- the empty arena is represented by any heap with the allocator at pointer 1 and the counter at 0 -/
example (h : SrcH.Heap) : SrcH.StoreRel h 1 0 {} := ⟨rfl, rfl, by intro i n hn; simp at hn, by intro i n hn; simp at hn⟩

/-- **C03 (facts: which code runs).**  `newTreeSimple` fills each part of the simple tree through a factory that
    calls the expected constructors with the expected configuration fields, each constructor returns the struct the
    heap-mode theorems are about (`defaultGrowerSimple`, `defaultSpreaderSimple`, …), and those structs declare the
    translated methods — so the functions translated in §4.5 are the ones every entry point of the simple mode runs.
    Regenerated from simple_tree*.go on every run. -/
theorem C03_facts_simple_tree_is_made_of_the_translated_parts :
    expectedParts.all partOk = true ∧ expectedCtors.all ctorOk = true ∧ expectedMethods.all methodsOk = true ∧
    expectedCalls.all callsOk = true ∧ Facts.treeSimpleCalls.length = expectedCalls.length :=
  ⟨simple_tree_is_made_of_the_translated_parts.1, simple_tree_is_made_of_the_translated_parts.2.1,
   simple_tree_is_made_of_the_translated_parts.2.2, simple_tree_operations_grow_then_use.1,
   simple_tree_operations_grow_then_use.2⟩

/-- **C03 (facts: the entry points).**  Every exported entry point — the Markdown forms, the From-Root forms, and the
    deprecated names of both — builds its tree with `initializeTree(cfg)`, which constructs a new simple tree, or a new
    massive one exactly when `cfg.massive`, on every call (nothing is cached or shared between calls), and calls the
    operation of its own name on it: a From-Root call and the Markdown call of the same operation run the same parts. -/
theorem C03_facts_entry_points_build_a_fresh_tree :
    expectedEntryTree.all (fun e => lookupL e.1 Facts.entryTree == e.2) = true ∧
    Facts.entryTree.length = expectedEntryTree.length ∧
    lookupL "initializeTree" Facts.initTree =
      ["if:cfg.massive", "return", "call:newTreePipeline", "return", "call:newTreeSimple"] :=
  entry_points_build_a_fresh_tree

end Gtree
