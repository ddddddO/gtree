import Gtree.Lemmas.Arena
import Gtree.Lemmas.EntryFacts
import Gtree.Lemmas.HeapArena
/-
  C13 — results depend only on the tree, not on call history.
  In the arena model the only traces of call history besides the tree structure itself are the
  package-level `idxCounter` and the `index` stamped on each node. Every From-Root result is
  `run (store.tree root)`; the theorems show that `tree` reads neither, so that resetting the counter
  (what every From-Root call does), re-stamping indexes arbitrarily (`Store.restamp`, Lemmas/Arena.lean: what
  interleaving NewRoot/Add with From-Root calls on any tree does), and repeating an operation cannot change a result.
  Then the regenerated facts, and the tie of the arena to the translated `NewRoot` / `Add`.
  `C13_facts_entry_points_configuration` and `C13_facts_aliases_identical` are stated again, word for word, in C03, C04,
  C05 and C06, `C13_arena_is_the_source` in C03.
-/
namespace Gtree

/-- the tree below a node does not depend on index stamps or on the counter -/
theorem C13_tree_ignores_history (s : Store) (g : Nat → Nat) (k id : Nat) :
    (s.restamp g k).tree id = s.tree id := by
  rw [Store.tree, s.toT_congr _ (fun i => by rw [Store.get?_restamp]; cases s.get? i <;> rfl)]
  simp [Store.restamp, Store.tree]

/-- every From-Root result on a re-stamped store equals the result on the original one -/
theorem C13_result_ignores_history {α} (s : Store) (g : Nat → Nat) (k : Nat) (id : Option Nat)
    (run : T → α) (fail : Err → α) :
    ((s.restamp g k).fromRoot id run fail).2 = (s.fromRoot id run fail).2 := by
  unfold Store.fromRoot
  rw [Store.validateRoot_restamp]
  cases s.validateRoot id with
  | some e => rfl
  | none => simp only; rw [C13_tree_ignores_history]

/-- the counter reset performed by a From-Root call does not change any tree -/
theorem C13_reset_keeps_trees (s : Store) (id : Nat) : ({ s with idxCounter := 0 } : Store).tree id = s.tree id :=
  s.toT_congr { s with idxCounter := 0 } (fun _ => rfl) _ id

/-- repeating an operation repeats its result -/
theorem C13_repeat {α} (s : Store) (id : Option Nat) (run : T → α) (fail : Err → α) :
    ((s.fromRoot id run fail).1.fromRoot id run fail).2 = (s.fromRoot id run fail).2 := by
  unfold Store.fromRoot
  cases hv : s.validateRoot id with
  | some e => simp [hv]
  | none =>
    have hv' : ({ s with idxCounter := 0 } : Store).validateRoot id = none := by
      unfold Store.validateRoot Store.get? at hv ⊢; exact hv
    simp only [hv']
    rw [C13_reset_keeps_trees]

/-- Fact regenerated from the sources on this run: under both names of every entry point the configuration constructor
    is the expected one, so a stray encoding option cannot make an operation read what an earlier operation left in the
    nodes. -/
theorem C13_facts_entry_points_configuration : Facts.entryConfig = expectedEntryConfig := entryConfig_as_expected

/-- Fact regenerated from the sources on this run: every deprecated alias (`Output`, `Mkdir`, `Verify`, `Walk`,
    `OutputProgrammably`, `MkdirProgrammably`, `VerifyProgrammably`, `WalkProgrammably`, `WalkIterProgrammably`) has, word for
    word, the body of the function that replaces it. -/
theorem C13_facts_aliases_identical : Facts.aliasBodiesEqual.all (fun e => e.2) = true := aliases_identical

/-- Tie to the source, pointer code included (heap mode of /verif/translate, regenerated on every run): `NewRoot` and
    `(*Node).Add` of tree_handler_programmably.go with `newNode` of node.go and the package-level `idxCounter`, translated
    over an explicit heap (`&Node{…}` takes the allocator's next pointer; the counter is a world component), ARE the
    operations of the arena model (`Model/Programmable.lean`): with node `i` of the arena at pointer `i + 1`
    (`SrcH.StoreRel`), `NewRoot` is `Store.newRoot` and `Add` on an allocated node is `Store.add` — the existing child of
    that name (the FIRST one) is returned and nothing is written, or a new node one level deeper, stamped with the next
    counter value, becomes the parent's last child — and the representation is kept.  `C13_tree_ignores_history` and
    `C13_result_ignores_history` re-stamp the `index` fields and the counter of exactly this arena; that no other
    package-level variable exists is a regenerated fact. -/
theorem C13_arena_is_the_source (h : SrcH.Heap) (al : Nat) (idx : Int) (s : Store) (hrel : SrcH.StoreRel h al idx s) :
    (∀ name, (SrcH.NewRoot h al idx name).2.2.2 = (s.newRoot name).2 + 1 ∧
      SrcH.StoreRel (SrcH.NewRoot h al idx name).1 (SrcH.NewRoot h al idx name).2.1 (SrcH.NewRoot h al idx name).2.2.1
        (s.newRoot name).1) ∧
    (∀ pid name, pid < s.nodes.length →
      (s.add pid name).2 = some ((SrcH.Node.Add h al idx (pid + 1) name).2.2.2 - 1) ∧
      (SrcH.Node.Add h al idx (pid + 1) name).2.2.2 ≠ 0 ∧
      SrcH.StoreRel (SrcH.Node.Add h al idx (pid + 1) name).1 (SrcH.Node.Add h al idx (pid + 1) name).2.1
        (SrcH.Node.Add h al idx (pid + 1) name).2.2.1 (s.add pid name).1) :=
  -- a translated call returns (heap, allocator, counter, pointer): `.1`, `.2.1`, `.2.2.1`, `.2.2.2`
  ⟨fun name => SrcH.NewRoot_refines h al idx s name hrel, fun pid name hp => SrcH.Add_refines h al idx s pid name hrel hp⟩

/-- the empty arena is represented by any heap with the allocator at pointer 1 and the counter at 0 -/
example (h : SrcH.Heap) : SrcH.StoreRel h 1 0 {} := ⟨rfl, rfl, by intro i n hn; simp at hn, by intro i n hn; simp at hn⟩
end Gtree
