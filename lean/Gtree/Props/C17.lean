import Gtree.Lemmas.GenFacts
import Gtree.Lemmas.HeapWasm
import Gtree.Lemmas.SourceRefines
import Gtree.Lemmas.Validate
/-
  C17 — the tinywasm variant (name baked into the branch string, concatenation, one buffered write,
  batch generator) makes the same accept/reject decision and produces the same bytes as the default
  build (iterator pipeline) for text (any branch strings) and dry-run reports.  (The JSON path,
  `wasmOutputFormatted`, is modelled; no theorem here compares it with `outputFormatted`.)
-/
namespace Gtree

/-- the wasm renderer of one root = the default renderer's lines, concatenated -/
theorem C17_render_same (f : Fmt) (t : T) : wasmSpreadBranch f t = (textChunks f t).flatten := by
  unfold wasmSpreadBranch textChunks
  congr 1
  refine List.map_congr_left fun v _ => ?_
  unfold wasmBranch lineOf Visit.row
  split <;> simp

/-- the dry-run report of one root is the same in both builds -/
theorem C17_dry_report_same (f : Fmt) (exts : List Bytes) (t : T) : wasmDryReport f exts t = dryRunReport f exts t := by
  unfold wasmDryReport dryRunReport
  simp only [C17_render_same, textChunks, List.append_assoc]

/-- the default build's job for the two outputs the tinywasm build has: the dry-run report or the text tree -/
def jobOf (f : Fmt) (dry : Bool) (exts : List Bytes) : Job := if dry then dryJob f exts else textJob f

/-- same accept/reject decision in both builds, for every input -/
theorem C17_same_decision (f : Fmt) (dry : Bool) (exts : List Bytes) (inp : Input) :
    (wasmOutput f dry exts inp).err.isNone = (outputIter (jobOf f dry exts) inp {}).err.isNone := by
  rw [outputIter_nofault_err]
  cases hg : (generate inp).err with
  | some ge => simp [wasmOutput, hg]
  | none =>
    have hroots : rootsOf inp = (generate inp).roots := by simp [rootsOf, hg]
    simp only [wasmOutput, hg, hroots]
    cases dry with
    | true =>
      simp only [jobOf, if_true, dryJob]
      cases validateVisits (List.map (growRoot f) (generate inp).roots).flatten <;> simp
    | false => simp [jobOf, textJob]

/-- accepted input: byte-identical output in both builds -/
theorem C17_same_bytes (f : Fmt) (dry : Bool) (exts : List Bytes) (inp : Input)
    (hacc : (outputIter (jobOf f dry exts) inp {}).err = none) :
    (wasmOutput f dry exts inp).written = (outputIter (jobOf f dry exts) inp {}).written := by
  have hw := outputIter_writer (jobOf f dry exts) inp {} hacc
  rw [hw]
  have hdec := C17_same_decision f dry exts inp
  rw [hacc] at hdec
  have hgen : (generate inp).err = none := by
    cases hg : (generate inp).err with
    | none => rfl
    | some ge => exact absurd hacc (outputIter_generation_error _ inp {} (by simp [hg]))
  have hroots : rootsOf inp = (generate inp).roots := by simp [rootsOf, hgen]
  rw [hroots]
  simp only [wasmOutput, hgen] at hdec ⊢
  -- one piece per root in the wasm build, the job's chunks in the default build: the same bytes
  have key : ∀ (piece : T → Bytes) (chunks : T → List Bytes), (∀ t, piece t = (chunks t).flatten) →
      ((generate inp).roots.map piece).flatten = ((generate inp).roots.map chunks).flatten.flatten := by
    intro piece chunks h
    rw [List.flatten_flatten, List.map_map]
    exact congrArg List.flatten (List.map_congr_left fun t _ => h t)
  cases dry with
  | true =>
    simp only [if_true] at hdec ⊢
    cases hv : validateVisits (List.map (growRoot f) (generate inp).roots).flatten with
    | some ve => simp [hv] at hdec
    | none =>
      simp only [jobOf, if_true, dryJob]
      exact key (wasmDryReport f exts) (fun r => [dryRunReport f exts r]) fun t => by
        rw [C17_dry_report_same, List.flatten_singleton]
  | false =>
    simp only [jobOf, textJob, Bool.false_eq_true, if_false]
    exact key (wasmSpreadBranch f) (textChunks f) (C17_render_same f)

/-- Tie to the source, re-checked on every run: both build variants compile markdown/parser.go; the parser of the two
    models is `Parser.Parse` as translated on this run.  (The same statement as `C01_parser_is_the_source`.) -/
theorem C17_parser_is_the_source (st : PState) (row : Bytes) :
    Src.Parser.Parse (toSrc st) row = (toSrc (parse st row).1, resSrc (parse st row).2) :=
  Parse_src st row

/-- the parser every generator starts with (`md.NewParser()` returns `&Parser{}`) is the model's initial state -/
example : toSrc {} = { isSharpRoot := false, spaces := 0, sep := [] } := rfl

/-- Tie to the source, pointer code included (heap mode of /verif/translate, regenerated on every run): THE TINYWASM TWINS
    of the grower and the text printer — wasm_tree_grower.go (`defaultGrower.assemble`, `assembleBranch` with its walk up
    the parent links, `assembleBranchDirectly/Indirectly/Finally`) and wasm_tree_spreader.go
    (`defaultSpreader.spreadBranch`) — translated over an explicit heap next to the default variant's functions.
    Definition by definition the twin's grower is the default grower followed, node by node, by baking the row into the
    branch (`Lemmas/HeapWasm.lean`: `wasm_directly`, `wasm_indirectly` by `rfl`; `wasm_finally`, `wasm_assembleBranch` for
    every heap).  For every heap that holds a tree at a root (all pointers different), every four branch strings and every
    fuel above `2·size + 1`: the twin's grower returns the DEFAULT variant's validation verdict (the same accept/reject
    decision), and when it accepts, the twin's printer returns the model's `wasmSpreadBranch` — which `C17_render_same`
    shows to be the default variant's text, byte for byte. -/
theorem C17_twins_are_the_source (dg : SrcH.defaultGrower) (ds : SrcH.defaultSpreader) (t : T) (h : SrcH.Heap)
    (r : Go.Ptr) (fuel : Nat) (hr : SrcH.Repr h t r 0 1) (hnd : (SrcH.ptrs h t r).Nodup) (hf : 2 * t.size + 1 ≤ fuel) :
    ∃ h', SrcH.defaultGrower.assemble fuel h dg r =
        some (h', SrcH.expErr (SrcH.toSimple dg) (growRoot (SrcH.fmtOf (SrcH.toSimple dg)) t)) ∧
      (SrcH.expErr (SrcH.toSimple dg) (growRoot (SrcH.fmtOf (SrcH.toSimple dg)) t) = none →
        SrcH.defaultSpreader.spreadBranch fuel h' ds r = some (wasmSpreadBranch (SrcH.fmtOf (SrcH.toSimple dg)) t)) :=
  SrcH.wasm_grow_then_spread dg ds t h r fuel hr hnd hf

/-- **C17 (facts: the tinywasm generator).**  The row loop of the tinywasm build's generator is, token for token, the
    loop of the default build's `rootGeneratorSimple.generate`.  (27 is the number of tokens of that loop in
    `expectedGenSkeleton`: `lookupL` gives `[]` for a function the sources no longer have, and the length keeps the
    equation from holding between two empty lookups.) -/
theorem C17_facts_wasm_generator_loop_is_the_default_one :
    lookupL "rootGenerator.generate" Facts.genSkeleton = lookupL "rootGeneratorSimple.generate" Facts.genSkeleton ∧
    (lookupL "rootGenerator.generate" Facts.genSkeleton).length = 27 := ⟨rfl, rfl⟩

end Gtree
