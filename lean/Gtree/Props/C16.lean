import Gtree.Model.Cli
/-
  C16 — exit status of the CLI model: 0 iff the invocation reached the library and it returned nil.
  (The stage table is finite; the theorem is a case analysis over it.)
-/
namespace Gtree

/-- every helper of cmd/gtree that ends the process through `cli.Exit` does so with a non-zero status
    (a statement about the regenerated table: it is re-decided against the sources on every run) -/
theorem C16_exit_helpers_nonzero : ∀ p ∈ Facts.cliExitCodes, p.2 ≠ 0 := by decide

/-- the helpers the model's table names exist in the sources, with pairwise different statuses other than
    the 1 of a usage error: the failure classes stay distinguishable -/
theorem C16_exit_classes_distinct :
    [exitCode "exitErrOpen", exitCode "exitErrOutput", exitCode "exitErrMkdir", exitCode "exitErrVerify"].Nodup ∧
    ∀ c ∈ [exitCode "exitErrOpen", exitCode "exitErrOutput", exitCode "exitErrMkdir", exitCode "exitErrVerify"], 1 < c := by
  -- `+kernel` here and below: looking strings up in the regenerated tables is evaluated by the kernel alone, at a third of
  -- what plain `decide` costs, which evaluates in the elaborator first
  decide +kernel

/-- every function of cmd/gtree that runs a library call reports its failure through a helper -/
theorem C16_actions_report_failures :
    "actionOutput:exitErrOutput" ∈ Facts.cliActionExits ∧ "actionOutput:exitErrOpen" ∈ Facts.cliActionExits ∧
    "actionOutput:exitErrOpts" ∈ Facts.cliActionExits ∧ "actionMkdir:exitErrMkdir" ∈ Facts.cliActionExits ∧
    "actionMkdir:exitErrOutput" ∈ Facts.cliActionExits ∧ "actionMkdir:exitErrOpen" ∈ Facts.cliActionExits ∧
    "actionVerify:exitErrVerify" ∈ Facts.cliActionExits ∧ "actionVerify:exitErrOpen" ∈ Facts.cliActionExits := by
  decide +kernel

/-- C16: the process exits with 0 exactly when the invocation reached the library call and the call returned nil —
    for every subcommand, with or without `--dry-run`.  The statuses of the failing stages are those of the regenerated
    `cliExitCodes`, so the statement is re-decided against error.go on every run. -/
theorem C16_exit_zero_iff (sub : Sub) (dry : Bool) (st : CliStage) :
    exitStatus sub dry st = 0 ↔ st = .lib true := by
  -- every stage but `.lib true` exits with 1 or through one of these five helpers
  have ⟨hopts, hopen, hout, hmk, hver⟩ : exitCode "exitErrOpts" ≠ 0 ∧ exitCode "exitErrOpen" ≠ 0 ∧
      exitCode "exitErrOutput" ≠ 0 ∧ exitCode "exitErrMkdir" ≠ 0 ∧ exitCode "exitErrVerify" ≠ 0 := by decide +kernel
  cases st with
  | usage => simp [exitStatus]
  | opts => simp [exitStatus, hopts]
  | open_ => simp [exitStatus, hopen]
  | lib ok =>
    cases ok with
    | true => simp [exitStatus]
    | false =>
      cases sub with
      | output => simp [exitStatus, hout]
      | mkdir => cases dry <;> simp [exitStatus, hout, hmk]
      | verify => simp [exitStatus, hver]
      | template => simp [exitStatus]

/-- every failure class has a non-zero status -/
theorem C16_failure_nonzero (sub : Sub) (dry : Bool) (st : CliStage) (h : st ≠ .lib true) :
    exitStatus sub dry st ≠ 0 := fun h0 => h ((C16_exit_zero_iff sub dry st).mp h0)

end Gtree
