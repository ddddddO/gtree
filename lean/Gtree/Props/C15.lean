import Gtree.Lemmas.RoundTrip
import Gtree.Lemmas.SourceRefines
/-
  C15 — equivalent spellings of a document give byte-identical results.
  Every entry point of the model looks at its input only through `generate`; two valid spellings of
  one forest generate the same roots without error (round trip), hence every result is the same –
  for every output mode, branch format, extension list, writer fault, callback failure position,
  file-system state, target directory and strictness.
  `C15_parser_is_the_source` is stated again, word for word, in C01, C02, C10, C12 and C17.
-/
namespace Gtree

/-- two valid spellings of one forest generate the same trees -/
theorem C15_same_trees (f : List T) (s₁ s₂ : Spelling) (h₁ : s₁.Valid (items 1 f)) (h₂ : s₂.Valid (items 1 f)) :
    (generate { doc := spell f s₁ }).err = none ∧ (generate { doc := spell f s₂ }).err = none ∧
    (generate { doc := spell f s₁ }).roots = (generate { doc := spell f s₂ }).roots := by
  obtain ⟨e1, r1⟩ := generate_spell f s₁ h₁
  obtain ⟨e2, r2⟩ := generate_spell f s₂ h₂
  exact ⟨e1, e2, by rw [r1, r2]⟩

/-- text / dry-run output through the iterator path (any job, any writer fault) -/
theorem C15_output (f : List T) (s₁ s₂ : Spelling) (h₁ : s₁.Valid (items 1 f)) (h₂ : s₂.Valid (items 1 f))
    (job : Job) (wf : WFault) :
    outputIter job { doc := spell f s₁ } wf = outputIter job { doc := spell f s₂ } wf := by
  obtain ⟨e1, e2, hr⟩ := C15_same_trees f s₁ s₂ h₁ h₂
  unfold outputIter
  simp only [e1, e2, hr, Option.isNone_none, if_true]

/-- text output through the all-or-nothing path (`all`: the text written in one piece or chunk by chunk; any writer fault) -/
theorem C15_output_batch (f : List T) (s₁ s₂ : Spelling) (h₁ : s₁.Valid (items 1 f)) (h₂ : s₂.Valid (items 1 f))
    (job : Job) (all : Bool) (wf : WFault) :
    outputBatch job all { doc := spell f s₁ } wf = outputBatch job all { doc := spell f s₂ } wf := by
  obtain ⟨e1, e2, hr⟩ := C15_same_trees f s₁ s₂ h₁ h₂
  unfold outputBatch
  simp only [e1, e2, hr]

/-- JSON / YAML / TOML: the same values are handed to the encoder -/
theorem C15_formatted (f : List T) (s₁ s₂ : Spelling) (h₁ : s₁.Valid (items 1 f)) (h₂ : s₂.Valid (items 1 f)) :
    outputFormatted { doc := spell f s₁ } = outputFormatted { doc := spell f s₂ } := by
  obtain ⟨e1, e2, hr⟩ := C15_same_trees f s₁ s₂ h₁ h₂
  unfold outputFormatted
  simp only [e1, e2, hr, Option.isNone_none, if_true]

/-- the visits a walk makes and the error it returns, for every position at which the callback fails -/
theorem C15_walk (f : List T) (s₁ s₂ : Spelling) (h₁ : s₁.Valid (items 1 f)) (h₂ : s₂.Valid (items 1 f))
    (fmt : Fmt) (failAt : Option Nat) :
    walkMd fmt { doc := spell f s₁ } failAt = walkMd fmt { doc := spell f s₂ } failAt := by
  obtain ⟨e1, e2, hr⟩ := C15_same_trees f s₁ s₂ h₁ h₂
  unfold walkMd
  simp only [e1, e2, hr]

/-- the directories made (for every file-system state, target, extension list, dry-run or not) -/
theorem C15_mkdir (f : List T) (s₁ s₂ : Spelling) (h₁ : s₁.Valid (items 1 f)) (h₂ : s₂.Valid (items 1 f))
    (fmt : Fmt) (exts : List Bytes) (target : Bytes) (dry : Bool) (fs : FS) :
    (mkdirMd fmt exts target dry { doc := spell f s₁ } fs).fs = (mkdirMd fmt exts target dry { doc := spell f s₂ } fs).fs ∧
    (mkdirMd fmt exts target dry { doc := spell f s₁ } fs).err = (mkdirMd fmt exts target dry { doc := spell f s₂ } fs).err ∧
    (mkdirMd fmt exts target dry { doc := spell f s₁ } fs).written = (mkdirMd fmt exts target dry { doc := spell f s₂ } fs).written := by
  obtain ⟨e1, e2, hr⟩ := C15_same_trees f s₁ s₂ h₁ h₂
  unfold mkdirMd
  simp only [e1, e2, hr, and_self]

/-- the verification verdict -/
theorem C15_verify (f : List T) (s₁ s₂ : Spelling) (h₁ : s₁.Valid (items 1 f)) (h₂ : s₂.Valid (items 1 f))
    (fmt : Fmt) (target : Bytes) (strict : Bool) (fs : FS) :
    verifyMd fmt target strict { doc := spell f s₁ } fs = verifyMd fmt target strict { doc := spell f s₂ } fs := by
  obtain ⟨e1, e2, hr⟩ := C15_same_trees f s₁ s₂ h₁ h₂
  unfold verifyMd
  simp only [e1, e2, hr]

/-- Tie to the source, re-checked on every run: the notation-learning parser (`spaces`, `sep`, `isSharpRoot`) the C15
    theorems are about is `Parser.Parse` of markdown/parser.go as translated on this run. -/
theorem C15_parser_is_the_source (st : PState) (row : Bytes) :
    Src.Parser.Parse (toSrc st) row = (toSrc (parse st row).1, resSrc (parse st row).2) :=
  Parse_src st row

/-- the parser every generator starts with (`md.NewParser()` returns `&Parser{}`) is the model's initial state -/
example : toSrc {} = { isSharpRoot := false, spaces := 0, sep := [] } := rfl
end Gtree
