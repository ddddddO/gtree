import Gtree.Lemmas.EntryFacts
import Gtree.Lemmas.HeapFold
import Gtree.Lemmas.HeapGrower
import Gtree.Lemmas.HeapRepr
import Gtree.Lemmas.HeapWalk
import Gtree.Lemmas.Render
import Gtree.Lemmas.SourceRefines
import Gtree.Lemmas.Tree
import Gtree.Lemmas.TreeFacts
import Gtree.Lemmas.ValidNames
import Gtree.Lemmas.Validate
/-
  C05 — walk visits the rendered tree: same nodes, same order, consistent node facts.
  In the model both the text printer and the walker consume the same list of visits (`growRoot`), as in
  the Go code both read the same grown nodes; the theorems make the consequences explicit.
  Ties to the source: the accessors of `WalkerNode` (translated pure functions), the walker after the grower in
  heap mode with the callback as a state machine (`C05_walker_is_the_source`), and the facts about the entry points.
-/
namespace Gtree

/-- the nodes of a tree in depth-first pre-order with their depth (roots: 1) and has-children flag -/
def specFacts (d : Nat) : T → List (Bytes × Nat × Bool)
  | .mk n ks => (n, d, !ks.isEmpty) :: specFactsKids (d + 1) ks
where specFactsKids (d : Nat) : List T → List (Bytes × Nat × Bool)
  | [] => []
  | t :: ts => specFacts d t ++ specFactsKids d ts

/-- the children's part of `C05_visits_are_the_nodes`: at any level, below any ancestors -/
theorem growKids_facts (f : Fmt) (rn : Bytes) (ks : List T) (anc : List Anc) (lvl : Nat) :
    (growKids f rn anc lvl ks).map (fun v => (v.name, v.level, v.hasChild)) = specFacts.specFactsKids lvl ks := by
  induction ks using forest_induct generalizing anc lvl with
  | nil => simp [growKids, specFacts.specFactsKids]
  | cons n ch ts ihch ihts =>
    rw [growKids_cons, List.map_append, List.map_cons, ihch, ihts]
    simp [specFacts.specFactsKids, specFacts]

/-- every node is visited exactly once, in pre-order, with Name, Level = depth (roots at 1) and HasChild -/
theorem C05_visits_are_the_nodes (f : Fmt) (t : T) :
    (growRoot f t).map (fun v => (v.name, v.level, v.hasChild)) = specFacts 1 t := by
  cases t with
  | mk n ks => simp [growRoot, specFacts, growKids_facts]

/-- Row = Branch + space + Name (Name alone for a root) -/
theorem C05_row (v : Visit) : v.row = if v.level == 1 then v.name else v.branch ++ sp :: v.name := rfl

/-- the rows are the lines of the drawing rule -/
theorem C05_rows_are_spec_lines (f : Fmt) (t : T) : (growRoot f t).map Visit.row = specRoot f t :=
  growRoot_rows f t

/-- the walk of a Markdown document visits, in order, exactly the lines the text output writes -/
theorem C05_rows_are_output_lines (f : Fmt) (inp : Input) (h : (generate inp).err = none) :
    (((walkMd f inp none).1.map lineOf).flatten) = (outputBatch (textJob f) false inp {}).written := by
  unfold walkMd outputBatch walkVisits
  simp only [h, textJob, Bool.false_eq_true, if_false, emit_nofault]
  simp only [List.map_flatten, List.map_map]
  rfl

/-- the first error returned by the callback ends the walk: the callback has been invoked for the
    visits up to and including the failing one, and that error is returned -/
theorem C05_callback_stop (vs : List Visit) (k : Nat) (hk : k < vs.length) :
    walkVisits vs (some k) = (vs.take (k + 1), some .callback) := by
  simp [walkVisits, hk]

/-- a callback that never returns an error is invoked for every visit (`walkVisits` is defined so) -/
theorem C05_callback_never_fails (vs : List Visit) : walkVisits vs none = (vs, none) := rfl

/-- leaving the iterator after `k` items: exactly the first `k` visits have been seen -/
theorem C05_iter_break (f : Fmt) (t : T) (k : Nat) : walkIterRoot f t (some k) = (growRoot f t).take k := rfl

/-- Path: for names that are single path elements, the path of every visited node is the names from
    the root joined by '/' -/
theorem C05_path (f : Fmt) (t : T) (h : AllElemT t) : (growRoot f t).map Visit.path = specPaths [] [t] := by
  cases t with
  | mk n ks =>
    rw [AllElemT] at h
    have := growKids_paths f n h.1 ks [] 2 h.2 (by simp)
    simp [growRoot, specPaths, this, joinSlash]

/-- Tie to the source: what a walk callback reads from its `WalkerNode` (`Name`, `Branch`, `Level`, `HasChild`, `Path`,
    `Row` — simple_tree_walker.go, node.go, translated on this run) is the model's visit; in particular
    `Row = Branch + " " + Name`, the name alone for a root. -/
theorem C05_walker_node_is_the_source (v : Visit) (hroot : v.level = 1 → v.path = v.name) :
    Src.WalkerNode.Name ⟨visitNode v⟩ = v.name ∧
    Src.WalkerNode.Branch ⟨visitNode v⟩ = v.branch ∧
    Src.WalkerNode.Level ⟨visitNode v⟩ = (v.level : Int) ∧
    Src.WalkerNode.HasChild ⟨visitNode v⟩ = v.hasChild ∧
    Src.WalkerNode.Path ⟨visitNode v⟩ = v.path ∧
    Src.WalkerNode.Row ⟨visitNode v⟩ = v.row :=
  walkerNode_src v hroot

/-- Fact regenerated from the sources on this run: every Walk entry point, under both of its names and in the iterator
    form, builds its configuration with `newConfigWithoutEncode`: an encoding option does not select the no-op grower,
    so Row, Branch and Path are computed.  (The same statement as `C03_facts_entry_points_configuration`.) -/
theorem C05_facts_entry_points_configuration : Facts.entryConfig = expectedEntryConfig := entryConfig_as_expected

/-- Fact regenerated from the sources on this run: every deprecated alias (`Output`, `Mkdir`, `Verify`, `Walk`,
    `OutputProgrammably`, `MkdirProgrammably`, `VerifyProgrammably`, `WalkProgrammably`, `WalkIterProgrammably`) has, word for
    word, the body of the function that replaces it. -/
theorem C05_facts_aliases_identical : Facts.aliasBodiesEqual.all (fun e => e.2) = true := aliases_identical

/-- Tie to the source, pointer code included (heap mode of /verif/translate, `Generated/SourceHeap.lean`, regenerated
    on every run): the WALKER of simple_tree_walker.go (`walk`, the recursion `walkNode`) after the GROWER of
    simple_tree_grower.go, both translated statement by statement over an explicit heap, with the user's callback as
    an arbitrary state machine `cb` that is handed the node.  For every heap that holds a forest (all pointers
    different), every four branch strings and every fuel above `2·size + 1`: growing succeeds; the walk then calls the
    callback on exactly the nodes of the forest, in pre-order, each once, until the callback returns an error — that
    error is the walk's result, unchanged, and nothing is called after it (`callAll`); and what the callback reads
    from the nodes it is handed (name, branch, level, path, has-child: the accessors of `C05_walker_node_is_the_source`)
    is, node for node, the model's `growRoot` of every root — the visits all C05 theorems are about. -/
theorem C05_walker_is_the_source {σ : Type} (dg : SrcH.defaultGrowerSimple) (dw : SrcH.defaultWalkerSimple)
    (ts : List T) (h : SrcH.Heap) (rs : List Go.Ptr) (fuel : Nat) (cb : Go.Ptr → σ → σ × Option Src.Err) (s : σ)
    (hr : SrcH.ReprRoots h ts rs) (hnd : (SrcH.ptrsKids h ts rs).Nodup) (hf : 2 * sizeList ts + 1 ≤ fuel)
    (hv : dg.enabledValidation = false) :
    ∃ h', SrcH.defaultGrowerSimple.grow fuel h dg rs = some (h', none) ∧
      SrcH.defaultWalkerSimple.walk fuel h' s dw rs cb = some (SrcH.callAll cb (SrcH.ptrsKids h ts rs) s) ∧
      (SrcH.ptrsKids h ts rs).map (SrcH.visitOf h') = ts.flatMap (growRoot (SrcH.fmtOf dg)) := by
  obtain ⟨h', hrun, hs, _, hrd⟩ := SrcH.grow_forest_off dg hv ts h rs fuel hr hnd hf
  have hr' := SrcH.ReprRoots_shape hs ts rs hr
  refine ⟨h', hrun, ?_, ?_⟩
  · rw [SrcH.walk_heap dw h' cb ts s rs fuel hr' (SrcH.fuel_of_fuel2 hf), SrcH.ptrsKids_shape hs]
  · rw [← SrcH.ptrsKids_shape hs, SrcH.ptrsKids_visits h' ts rs 0 1 ((SrcH.ReprRoots_iff_kids h' ts rs).mp hr'), hrd]

/-- **C05 (facts: composition).**  The three Walk operations of the simple tree grow the roots and then hand them to
    the walker, and nothing else — the composition `C05_walker_is_the_source` is stated for. -/
theorem C05_facts_walk_grows_then_walks :
    lookupL "walk" Facts.treeSimpleCalls = ["grower.grow", "walker.walk"] ∧
    lookupL "walkProgrammably" Facts.treeSimpleCalls = ["grower.grow", "walker.walk"] ∧
    lookupL "walkIterProgrammably" Facts.treeSimpleCalls = ["grower.grow", "walker.walkIter"] ∧
    lookupL "newWalkerSimple" Facts.ctorReturns = ["defaultWalkerSimple"] :=
  ⟨tree_calls 4 rfl, tree_calls 5 rfl, tree_calls 6 rfl, tree_ctors 7 rfl⟩

end Gtree
