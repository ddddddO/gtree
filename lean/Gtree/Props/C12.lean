import Gtree.Lemmas.GenStep
import Gtree.Lemmas.SourceRefines
import Gtree.Lemmas.Validate
/-
  C12 — no input can crash or hang the library.
  The model is a total function of the input bytes (Lean accepts only terminating definitions; every Go
  loop is a structural recursion over rows / trees / the open path here), and its result type has no
  "panic" outcome: the generators never forward a missing root, so there is no nil root to dereference.
  What remains to be stated is the behaviour on blank input.
  `C12_parser_is_the_source` is stated again, word for word, in C01, C02, C10, C15 and C17.
-/
namespace Gtree

/-- empty or blank-only input generates no root and no error -/
theorem C12_blank_generates_nothing (doc : Bytes)
    (hblank : ∀ r ∈ (scanLines doc).rows, isBlank r = true) (hshort : (scanLines doc).tooLong = false) :
    generate { doc := doc } = ⟨[], none, none⟩ := by
  unfold generate generateFrom
  simp only [genRows_all_blank {} _ hblank, hshort]
  rfl

/-- … hence every output mode writes nothing and returns nil, whatever the writer does -/
theorem C12_blank_output (job : Job) (wf : WFault) (doc : Bytes)
    (hblank : ∀ r ∈ (scanLines doc).rows, isBlank r = true) (hshort : (scanLines doc).tooLong = false) :
    outputIter job { doc := doc } wf = ⟨[], none⟩ := by
  have hg := C12_blank_generates_nothing doc hblank hshort
  rw [outputIter_eq]
  simp [rootsOf, hg, Gen.roots, runRoots]

/-- … the structured modes (JSON / YAML / TOML) hand the encoder no value and return nil -/
theorem C12_blank_formatted (doc : Bytes)
    (hblank : ∀ r ∈ (scanLines doc).rows, isBlank r = true) (hshort : (scanLines doc).tooLong = false) :
    outputFormatted { doc := doc } = ([], none) := by
  have hg := C12_blank_generates_nothing doc hblank hshort
  simp [outputFormatted, hg, Gen.roots]

/-- … and a walk makes no callback and returns nil, with or without a failing callback position `k` -/
theorem C12_blank_walk (f : Fmt) (doc : Bytes) (k : Option Nat)
    (hblank : ∀ r ∈ (scanLines doc).rows, isBlank r = true) (hshort : (scanLines doc).tooLong = false) :
    walkMd f { doc := doc } k = ([], none) := by
  have hg := C12_blank_generates_nothing doc hblank hshort
  cases k <;> simp [walkMd, walkVisits, hg, Gen.roots]

/-- the empty document is blank -/
example : generate { doc := [] } = ⟨[], none, none⟩ :=
  C12_blank_generates_nothing [] (by simp [scanLines, rawLines, splitLF, scanLinesAux]) (by simp [scanLines, rawLines, splitLF, scanLinesAux])

/-- Tie to the source, re-checked on every run: the total function `parse` (no panic outcome) the C12 theorems are about
    is `Parser.Parse` of markdown/parser.go as translated on this run; the translation has no partial operation left in
    it except the ones listed in the trusted base (`xs[0]` on a non-empty split, `%` by a unit > 1). -/
theorem C12_parser_is_the_source (st : PState) (row : Bytes) :
    Src.Parser.Parse (toSrc st) row = (toSrc (parse st row).1, resSrc (parse st row).2) :=
  Parse_src st row

/-- the parser every generator starts with (`md.NewParser()` returns `&Parser{}`) is the model's initial state -/
example : toSrc {} = { isSharpRoot := false, spaces := 0, sep := [] } := rfl
end Gtree
