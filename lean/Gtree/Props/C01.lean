import Gtree.Lemmas.GenStep
import Gtree.Lemmas.HeapBuilder
import Gtree.Lemmas.HeapGrower
import Gtree.Lemmas.HeapPrint
import Gtree.Lemmas.HeapTrav
import Gtree.Lemmas.HeapZipper
import Gtree.Lemmas.Render
import Gtree.Lemmas.RoundTrip
import Gtree.Lemmas.Scan
import Gtree.Lemmas.SourceRefines
import Gtree.Lemmas.Validate
/-
  C01 — text output obeys the tree-drawing rule.

  About the model: `spell f s` (Spec/Spelling.lean) is the Markdown document that writes the forest `f`
  in the notation `s`; `Spelling.Valid` says the notation is well-formed and the names can be written
  in it; `mergeRoot` (Spec/Merge.lean) makes equally named siblings one node; `renderSpec`
  (Spec/Render.lean) is the tree-drawing rule; `outputIter (textJob fmt)` is the model of
  `OutputFromMarkdown` (Model/Api.lean), `Out.written` the bytes given to the writer, `Out.err` the
  returned error.
-/
namespace Gtree

/-- Rendering refinement, for every tree and every four byte strings: the lines the grower/spreader
    produce for a root are exactly the lines of the top-down drawing rule.  (`C05_rows_are_spec_lines` is the same
    statement.) -/
theorem C01_render_refines_spec (f : Fmt) (t : T) :
    (growRoot f t).map Visit.row = specRoot f t := growRoot_rows f t

/-- one line per node: the number of lines written for a root is the number of its nodes -/
theorem C01_one_line_per_node (f : Fmt) (t : T) : (textChunks f t).length = t.size := by
  simp [textChunks, growRoot_length]

/-- Round trip: every valid spelling of a forest generates that forest with equally named siblings
    merged, without error. -/
theorem C01_generate_roundtrip (f : List T) (s : Spelling) (hv : s.Valid (items 1 f)) :
    (generate { doc := spell f s }).err = none ∧ (generate { doc := spell f s }).roots = f.map mergeRoot :=
  generate_spell f s hv

/-- C01, full statement: for every forest, every valid spelling of it and every four branch strings,
    `OutputFromMarkdown` writes exactly the drawing rule applied to the forest with equally named
    siblings merged, and returns nil. -/
theorem C01_text_output (f : List T) (s : Spelling) (fmt : Fmt) (hv : s.Valid (items 1 f)) :
    outputIter (textJob fmt) { doc := spell f s } {} = ⟨renderSpec fmt (f.map mergeRoot), none⟩ := by
  obtain ⟨herr, hroots⟩ := generate_spell f s hv
  unfold outputIter
  simp only [herr, Option.isNone_none, if_true, hroots]
  obtain ⟨j, hj⟩ := runRoots_nofault (textJob fmt) rfl (f.map mergeRoot) 0
  rw [hj]
  simp only [textJob]
  rw [text_of_roots]
  rfl

/-- the same for the all-at-once path (`generate(); grow(); spread()`) -/
theorem C01_text_output_batch (f : List T) (s : Spelling) (fmt : Fmt) (hv : s.Valid (items 1 f)) :
    outputBatch (textJob fmt) false { doc := spell f s } {} = ⟨renderSpec fmt (f.map mergeRoot), none⟩ := by
  obtain ⟨herr, hroots⟩ := generate_spell f s hv
  unfold outputBatch
  simp only [herr, hroots]
  simp only [textJob, Bool.false_eq_true, if_false, emit_nofault]
  rw [text_of_roots]

/-! Non-vacuity: a concrete non-trivial forest (repeated sibling names, three levels) and a
    concrete spelling (two-space units, alternating bullets, a blank row) satisfy `Spelling.Valid`. -/

def exForest : List T :=
  [.mk [0x61] [.mk [0x62] [.mk [0x63] []], .mk [0x64] [], .mk [0x62] [.mk [0x65] []]], .mk [0x66] []]

def exSpelling : Spelling :=
  { c := sp, unit := 2, bullet := fun i => if i % 2 = 0 then hy else ast, sharp := false,
    blanks := fun i => if i = 1 then [[sp, tab]] else [], crlf := false, finalNL := true }

theorem exItems : items 1 exForest =
    [(1, [0x61]), (2, [0x62]), (3, [0x63]), (2, [0x64]), (2, [0x62]), (3, [0x65]), (1, [0x66])] := by
  simp [exForest, items]

example : exSpelling.Valid (items 1 exForest) := by
  have key : ∀ it ∈ items 1 exForest, it.2 ≠ [] ∧ lf ∉ it.2 ∧ it.2.getLast? ≠ some cr := by rw [exItems]; decide
  have len : ∀ it ∈ items 1 exForest, it.1 * exSpelling.unit + 2 + it.2.length ≤ 9 := by rw [exItems]; decide
  refine ⟨Or.inl rfl, by decide, ?_, ?_, ?_, ?_⟩
  · intro i; simp only [exSpelling]; split <;> simp
  · intro it hit
    exact ⟨(key it hit).1, (key it hit).2.1, (key it hit).2.2, fun h => Bool.noConfusion h, fun h => Bool.noConfusion h⟩
  · intro i b hb
    simp only [exSpelling] at hb
    split at hb
    · simp only [List.mem_singleton] at hb; subst hb; exact ⟨by decide, by decide, by decide⟩
    · simp at hb
  · -- no inserted row and no item row is longer than 9 bytes
    intro i
    refine spellRows_forall exSpelling (·.length + 1 < maxToken) ?_ _ i fun it hit j => ?_
    · intro j b hb
      simp only [exSpelling] at hb
      split at hb
      · rw [List.mem_singleton.mp hb]; decide
      · cases hb
    · have := Nat.le_trans (rowOf_length_le exSpelling j it.1 it.2) (len it hit)
      exact Nat.lt_of_le_of_lt (Nat.succ_le_succ this) (by decide)

/-- Tie to the source, re-checked on every run: the line parser the round trip (`C01_generate_roundtrip`) is about is —
    row for row, parser state for parser state — `Parser.Parse` of markdown/parser.go as translated statement by
    statement by /verif/translate on this run (`Generated/Source.lean`): same new state (`isSharpRoot`, `spaces`,
    `sep`), same error, same hierarchy and item text.  (Stated again, for the property's own reading, as
    `C02_`, `C10_`, `C12_`, `C15_` and `C17_parser_is_the_source`.) -/
theorem C01_parser_is_the_source (st : PState) (row : Bytes) :
    Src.Parser.Parse (toSrc st) row = (toSrc (parse st row).1, resSrc (parse st row).2) :=
  Parse_src st row

/-- the parser every generator starts with (`md.NewParser()` returns `&Parser{}`) is the model's initial state -/
example : toSrc {} = { isSharpRoot := false, spaces := 0, sep := [] } := rfl

/-- Tie to the source: "equally named siblings under one parent are a single node" rests on `Node.findChildByText`
    (node.go, translated on this run): it returns the first child with the row's name — the child the model's
    builder re-opens (`descend` through `splitAtName`) — or nil. -/
theorem C01_find_child_is_the_source (h : Nat) (n x : Bytes) (ks : List T) :
    Src.Node.findChildByText (toNode h (.mk n ks)) x = ((splitAtName x ks).map (fun p => p.2.1)).map (toNode (h + 1)) :=
  findChildByText_is_splitAtName h n x ks

/-- Tie to the source: a node's branch is set by `Node.setBranch` (node.go, translated on this run) to the
    concatenation, in order, of the strings the grower hands it — the concatenation `C01_render_refines_spec` is
    about. -/
theorem C01_branch_is_concatenation_in_the_source (n : Src.Node) (parts : List Bytes) :
    (Src.Node.setBranch n parts).1 = { n with brnch := { n.brnch with value := parts.flatten } } :=
  setBranch_src n parts

/-- Tie to the source, pointer code included (heap mode of /verif/translate, `Generated/SourceHeap.lean`, regenerated
    on every run): the GROWER of simple_tree_grower.go — `grow`, `assemble`, `assembleBranch` with its walk up the
    parent links, `assembleBranchDirectly/Indirectly/Finally` — and the methods of node.go it calls (`clean`,
    `setBranch`, `setPath`, `path`, `branch`, `isRoot`, `isLastOfHierarchy` with its comparison of POINTERS) are
    translated statement by statement over an explicit heap.  For every heap that holds a forest (names, levels,
    parent links, child lists; all pointers different), every four branch strings, whatever stale branches and paths
    the cells hold, and every fuel above `2·size + 1`: the translated `grow` returns no error, changes nothing but
    the `brnch` fields of the forest's own nodes, and what the printers and the walker then read from the nodes
    (name, branch, level, path, has-child, pre-order) is the model's `growRoot` of every root — so the rows are the
    lines of the drawing rule (`specRoot`). -/
theorem C01_grower_is_the_source (dg : SrcH.defaultGrowerSimple) (ts : List T) (h : SrcH.Heap) (rs : List Go.Ptr)
    (fuel : Nat) (hr : SrcH.ReprRoots h ts rs) (hnd : (SrcH.ptrsKids h ts rs).Nodup)
    (hf : 2 * sizeList ts + 1 ≤ fuel) (hv : dg.enabledValidation = false) :
    ∃ h', SrcH.defaultGrowerSimple.grow fuel h dg rs = some (h', none) ∧
      SrcH.SameShape h h' ∧ (∀ q, q ∉ SrcH.ptrsKids h ts rs → h' q = h q) ∧
      SrcH.readKids h' ts rs 1 = ts.flatMap (growRoot (SrcH.fmtOf dg)) ∧
      (SrcH.readKids h' ts rs 1).map Visit.row = ts.flatMap (specRoot (SrcH.fmtOf dg)) := by
  obtain ⟨h', hrun, hs, hfr, hrd⟩ := SrcH.grow_forest_off dg hv ts h rs fuel hr hnd hf
  refine ⟨h', hrun, hs, hfr, hrd, ?_⟩
  rw [hrd, List.map_flatMap]
  exact congrArg ts.flatMap (funext (growRoot_rows (SrcH.fmtOf dg)))

/-- Tie to the source, pointer code included (heap mode, regenerated on every run): the TEXT PRINTER of
    simple_tree_spreader.go (`defaultSpreaderSimple.spread`, the recursion `spreadBranch` with its `fmt.Fprint`) after
    the GROWER, both translated over an explicit heap; the caller's writer is a fault oracle.  For every heap that
    holds a forest (all pointers different), every four branch strings, every writer and every fuel above
    `2·size + 1`: growing succeeds and the printer then issues one `Write` per node in pre-order — exactly the model's
    `textChunks` of every root (the line of the drawing rule and a line feed) — until a `Write` fails. -/
theorem C01_printer_is_the_source (dg : SrcH.defaultGrowerSimple) (ds : SrcH.defaultSpreaderSimple) (ts : List T)
    (h : SrcH.Heap) (rs : List Go.Ptr) (fuel : Nat) (w : Go.Writer)
    (hr : SrcH.ReprRoots h ts rs) (hnd : (SrcH.ptrsKids h ts rs).Nodup) (hf : 2 * sizeList ts + 1 ≤ fuel)
    (hv : dg.enabledValidation = false) :
    ∃ h', SrcH.defaultGrowerSimple.grow fuel h dg rs = some (h', none) ∧
      SrcH.defaultSpreaderSimple.spread fuel h' w ds rs
        = some (SrcH.writeAll w (ts.flatMap (textChunks (SrcH.fmtOf dg)))) :=
  SrcH.grow_then_spread dg ds hv ts h w rs fuel hr hnd hf

/-- Tie to the source, pointer code included (heap mode, regenerated on every run): ONE STEP OF THE TREE BUILDER,
    `stack.dfs` of stack.go (push / pop / size over container/list; `isDirectlyUnder`, `findChildByText`, `addChild`,
    `setParent` of node.go), translated over an explicit heap with the stack's list as a world component.  For every
    heap, every stack of non-nil pointers (root first) and every new node: the open nodes are popped until the one on
    top is exactly one level above the new node (`popTo`); then, if it has a child of the new node's name — the FIRST
    such child — nothing is written and that child is pushed back with its parent: equally named siblings under one
    parent are a single node; otherwise the new node becomes its last child, gets it as parent, and is pushed. -/
theorem C01_dfs_is_the_source (h : SrcH.Heap) (stk : List Go.Ptr) (c : Go.Ptr) (hne : ∀ p ∈ stk, p ≠ 0) :
    SrcH.stack.dfs h stk c =
      (match SrcH.popTo h (h c).hierarchy stk.reverse with
       | none => (h, [], false)
       | some (p, rest) => SrcH.attach h c p rest) :=
  SrcH.dfs_spec h stk c hne

/-- Tie to the source, from the rows of a block to the printed lines (heap mode, regenerated on every run): THE TREE
    BUILDER'S STEP COMPOSED OVER A ROOT BLOCK, THEN THE GROWER.  A fresh root node and the fresh nodes `newNode` makes
    for the block's rows (not nil, pairwise different, named and levelled as the rows say, no children yet) are fed one
    after the other through the translated `stack.dfs` (`feedH`; the loop around it — scanner, parser, counter — is the
    hand-written part).  For every heap and every sequence of rows: if the model's zipper (`Model/Generate.lean`:
    `dfs` = `closeTo` then `descend`, folded by `feedM`) rejects a row, the code's `dfs` returns false at that row;
    otherwise the heap afterwards holds, at the bottom of the stack (still the root node), exactly the tree the model
    builds (`closeAll`) — equally named siblings merged as `C01_generate_roundtrip` says — with all pointers different,
    and the translated grower then leaves the model's `growRoot` of that tree in its nodes.  Proof: a representation
    invariant between heap + stack and zipper (`Lemmas/HeapZipper.lean`: `ZR`; popping is `upOne`, `popTo` is `closeTo`,
    `attach` is `descend`; writes stay outside the closed subtrees because all represented pointers differ). -/
theorem C01_builder_is_the_source (dg : SrcH.defaultGrowerSimple) (hv : dg.enabledValidation = false)
    (h : SrcH.Heap) (r : Go.Ptr) (x : Bytes) (cs : List Go.Ptr) (its : List (Nat × Bytes))
    (hr0 : r ≠ 0) (hn : (h r).name = x) (hl : (h r).hierarchy = 1) (hp : (h r).parent = 0) (hc : (h r).children = [])
    (hi : SrcH.Items h cs its) (hnd : (r :: cs).Nodup) :
    (match SrcH.feedM [{ name := x, left := [], right := [] }] its with
     | none => SrcH.feedH h [r] cs = none
     | some z' => ∃ h' stk t, SrcH.feedH h [r] cs = some (h', stk) ∧ closeAll z' = some t ∧ stk.head? = some r ∧
         SrcH.Repr h' t r 0 1 ∧ (SrcH.ptrs h' t r).Nodup ∧
         ∀ fuel, 2 * t.size + 1 ≤ fuel →
           ∃ h'', SrcH.defaultGrowerSimple.assemble fuel h' dg r = some (h'', none) ∧
             SrcH.readNode h'' t r 1 = growRoot (SrcH.fmtOf dg) t) := by
  have hb := SrcH.block_builds_the_model_root h r x cs its hr0 hn hl hp hc hi hnd
  cases hm : SrcH.feedM [{ name := x, left := [], right := [] }] its with
  | none => simp only [hm] at hb ⊢; exact hb
  | some z' =>
    simp only [hm] at hb ⊢
    obtain ⟨h', stk, t, hrun, hclose, hhead, hrepr, hndp⟩ := hb
    refine ⟨h', stk, t, hrun, hclose, hhead, hrepr, hndp, ?_⟩
    intro fuel hf
    obtain ⟨h'', hgrow, hrest⟩ := SrcH.assemble_root dg t h' r fuel hrepr hndp hf
    rw [SrcH.expErr_off hv] at hgrow hrest
    exact ⟨h'', hgrow, (hrest rfl).2.2⟩

/-- `feedM` of `C01_builder_is_the_source` is the model's generator on the rows of one block: folding `addItem` — the
    function the model's `genStep` calls for a parsed row — over items below root level, from a state whose current root
    is `z`, fails exactly when `feedM` is undefined (with the format error naming a row of the block) and otherwise ends
    with `feedM`'s zipper as the current root.  So the tree `C01_builder_is_the_source` finds in the heap is the tree
    `C01_generate_roundtrip` is about. -/
theorem C01_feedM_is_the_models_generator (its : List (Nat × Bytes × Bytes)) (s : GState) (z : Zipper)
    (hs : s.cur = some z) (hk : ∀ it ∈ its, it.1 ≠ 1) :
    (match SrcH.feedM z (its.map (fun it => (it.1, it.2.1))) with
     | none => ∃ row, SrcH.addItems s its = .error (.format row) ∧ row ∈ its.map (fun it => it.2.2)
     | some z' => SrcH.addItems s its = .ok { s with cur := some z' }) := by
  induction its generalizing s z with
  | nil => obtain ⟨p, dn, cur⟩ := s; cases hs; rfl
  | cons it its ih =>
    obtain ⟨k, x, row⟩ := it
    simp only [List.map_cons, SrcH.feedM, SrcH.addItems, addItem_child s k x row (hk _ List.mem_cons_self), hs]
    cases hd : Gtree.dfs k x z with
    | none => exact ⟨row, rfl, List.mem_cons_self⟩
    | some z1 =>
      have ih := ih { s with cur := some z1 } z1 rfl fun it hit => hk it (List.mem_cons_of_mem _ hit)
      cases hf : SrcH.feedM z1 (its.map (fun it => (it.1, it.2.1))) with
      | none =>
        simp only [hf] at ih ⊢
        obtain ⟨r, h1, h2⟩ := ih
        exact ⟨r, h1, List.mem_cons_of_mem _ h2⟩
      | some z2 => simp only [hf] at ih ⊢; exact ih
end Gtree
