import Gtree.Lemmas.Bytes
import Gtree.Lemmas.GenFacts
import Gtree.Lemmas.GenStep
import Gtree.Lemmas.HeapBuilder
import Gtree.Lemmas.HeapZipper
import Gtree.Lemmas.MalformedIff
import Gtree.Lemmas.Names
import Gtree.Lemmas.ParseAny
import Gtree.Lemmas.ParseDoc
import Gtree.Lemmas.SourceRefines
/-
  C02 — a document is rendered completely or rejected: no silent loss.
  About the model of the generator: when nil is returned, the item text of every row that is not blank is the name of
  a node of the result; generation fails exactly when some row is malformed in the sense of Spec/Malformed.lean
  (its classes, M1–M5 in the docstrings: M1 `noBullet`, M2 `emptyText`, M3 `badIndent`, M4 `jump`, M5 `orphan`), with
  the error of the first such row's class.
  `C02_parser_is_the_source` is stated again, word for word, in C01, C10, C12, C15 and C17, `C02_dfs_is_the_source` in
  C01: each property file names the ties to the source it rests on.
-/
namespace Gtree

/-- names of everything built so far -/
def namesG (g : GState) : List Bytes :=
  namesL g.done ++ (match g.cur with | none => [] | some z => namesZ z)

/-- the item texts of the rows, as the parser reads them in sequence -/
def textsOf (p : PState) : List Bytes → List Bytes
  | [] => []
  | r :: rs => match parse p r with
    | (p', .ok (_, t)) => t :: textsOf p' rs
    | (p', .error _) => textsOf p' rs

/-- closing the open root loses no name -/
theorem namesG_finishCur (g : GState) : ∀ y ∈ namesG g, y ∈ namesL g.finishCur := by
  intro y hy
  rw [finishCur_eq, namesL_append, List.mem_append]
  rw [namesG, List.mem_append] at hy
  refine hy.imp_right fun hy => ?_
  unfold GState.root
  cases hc : g.cur with
  | none => rw [hc] at hy; cases hy
  | some z => rw [hc] at hy; exact mem_namesL_closeAll y z hy

/-- an accepted item's text is a name of the new state, and every name of the old state still is -/
theorem addItem_names (g g' : GState) (h : Nat) (text row : Bytes) (hok : addItem g h text row = .ok g') :
    text ∈ namesG g' ∧ ∀ y ∈ namesG g, y ∈ namesG g' := by
  by_cases h1 : h = 1
  · subst h1
    cases hok
    exact ⟨by simp [namesG, namesZ, namesF], fun y hy => List.mem_append_left _ (namesG_finishCur g y hy)⟩
  · obtain ⟨z, z', hc, hd, rfl⟩ := addItem_child_ok g g' h text row h1 hok
    have hmem := mem_namesZ_dfs h text z z' hd
    refine ⟨by simp [namesG, (hmem text).mpr (Or.inl rfl)], fun y hy => ?_⟩
    simp only [namesG, hc, List.mem_append] at hy ⊢
    exact hy.imp_right fun hy => (hmem y).mpr (Or.inr hy)

/-- The invariant behind `C02_no_silent_loss`: the names built so far (`namesG`) only grow along the rows, and the text
    of every row the parser accepts is among them from that row on. -/
theorem genRows_no_loss (rows : List Bytes) (g g' : GState) (h : genRows g rows = (g', none)) :
    (∀ t ∈ textsOf g.p rows, t ∈ namesG g') ∧ (∀ y ∈ namesG g, y ∈ namesG g') := by
  induction rows generalizing g with
  | nil => cases h; exact ⟨fun t ht => (nomatch ht), fun y hy => hy⟩
  | cons r rs ih =>
    simp only [genRows] at h
    cases hs : genStep g r with
    | error e => rw [hs] at h; cases h
    | ok g1 =>
      simp only [hs] at h
      obtain ⟨ih1, ih2⟩ := ih g1 h
      rw [genStep_p g g1 r hs] at ih1
      cases hp : parse g.p r with
      | mk p' res =>
        rw [hp] at ih1
        rcases genStep_ok g g1 r hs with ⟨hbl, rfl⟩ | ⟨hh, text, hres, hadd⟩
        · rw [hp] at hbl
          simp only at hbl
          refine ⟨fun t ht => ih1 t ?_, ih2⟩
          simpa only [textsOf, hp, hbl] using ht
        · rw [hp] at hres
          simp only at hres
          obtain ⟨hin, hkeep⟩ := addItem_names _ g1 hh text r hadd
          refine ⟨fun t ht => ?_, fun y hy => ih2 y (hkeep y hy)⟩
          simp only [textsOf, hp, hres, List.mem_cons] at ht
          rcases ht with rfl | ht
          · exact ih2 t hin
          · exact ih1 t ht

/-- C02, "nothing the user wrote is dropped": when generation returns no error, the item text of every
    row that is not blank is the name of a node of one of the resulting roots. -/
theorem C02_no_silent_loss (doc : Bytes) (h : (generate { doc := doc }).err = none) :
    ∀ t ∈ textsOf {} (scanLines doc).rows, t ∈ namesL (generate { doc := doc }).roots := by
  obtain ⟨hroots, herr⟩ := generate_doc doc
  rw [herr, Option.or_eq_none_iff] at h
  intro t ht
  rw [hroots]
  exact namesG_finishCur _ t ((genRows_no_loss _ {} _ (Prod.ext rfl h.1)).1 t ht)

/-- M4 — an item nested more than one level deeper than any open node is rejected, naming its row -/
theorem C02_jump_rejected (g : GState) (z : Zipper) (h : Nat) (text row : Bytes)
    (hc : g.cur = some z) (hh : 2 ≤ h) (hjump : z.length < h - 1) :
    addItem g h text row = .error (.format row) := by
  rw [addItem_child g h text row (Nat.ne_of_gt hh), hc]
  simp only [dfs_eq h text z hh, hjump, if_true]

/-- M5 — an item before the first root is rejected -/
theorem C02_orphan_rejected (g : GState) (h : Nat) (text row : Bytes) (hc : g.cur = none) (hh : h ≠ 1) :
    addItem g h text row = .error .nilStack := by
  rw [addItem_child g h text row hh, hc]

/-- M1 — a row that is not blank, is not a heading and contains no bullet symbol is rejected, naming the row -/
theorem C02_no_bullet_rejected (g : GState) (row : Bytes) (hnb : isBlank row = false)
    (hhead : row.head? ≠ some 0x23) (h1 : hy ∉ row) (h2 : ast ∉ row) (h3 : pls ∉ row) :
    genStep g row = .error (.format row) := by
  obtain ⟨x, tl, hai, hm⟩ := parse_row g.p row hnb hhead
  -- the first byte after the indentation is a byte of the row, so no bullet symbol
  have hx : x ∈ row := by rw [row_split row, hai]; simp
  have hbu : isBulletByte x = false := by
    unfold isBulletByte
    rw [beq_false_of_ne fun e : x = hy => h1 (e ▸ hx), beq_false_of_ne fun e : x = ast => h2 (e ▸ hx),
      beq_false_of_ne fun e : x = pls => h3 (e ▸ hx)]
    rfl
  rw [hbu] at hm
  exact genStep_of_incorrect g row hm

/-- M2 — a well-indented list row with an empty item text is rejected -/
theorem C02_empty_text_rejected (s : Spelling) (g : GState) (i k : Nat)
    (hc : s.c = sp ∨ s.c = tab) (hb : s.bullet i = hy ∨ s.bullet i = ast ∨ s.bullet i = pls)
    (hsep : g.p.sep = none ∨ g.p.sep = some s.c) (hsp : g.p.spaces = 0 ∨ (k * s.unit) % g.p.spaces = 0) :
    genStep g (listRow s i k []) = .error .emptyText := by
  have hb' := (isBulletByte_iff _).mpr hb
  refine genStep_of_empty g _ (afterRow g.p (k * s.unit) s.c) ?_
  unfold listRow
  rw [parse_list g.p _ (isBlank_indent_symbol s.c _ hc (isSymbolByte_of_bullet _ hb') _) (head_listRow s.c _ _ _ hc hb'),
    separateRow_multiple g.p s.c _ (k * s.unit) [sp] hc hb' hsep hsp]
  simp [trimPrefixB]

/-- M3 — a list row whose indentation is not a whole multiple of the unit the parser has learnt is
    rejected, naming the row — whatever its bullet symbol and whatever other symbols its text contains -/
theorem C02_not_multiple_rejected (g : GState) (c b : UInt8) (m : Nat) (name : Bytes)
    (hc : c = sp ∨ c = tab) (hb : b = hy ∨ b = ast ∨ b = pls)
    (hsep : g.p.sep = none ∨ g.p.sep = some c) (hu : 2 ≤ g.p.spaces) (hmod : m % g.p.spaces ≠ 0) :
    genStep g (List.replicate m c ++ b :: sp :: name) = .error (.format (List.replicate m c ++ b :: sp :: name)) := by
  have hb' := (isBulletByte_iff b).mpr hb
  exact genStep_of_incorrect g _ (parse_of_separateRow_none g.p _ (isBlank_indent_symbol c b hc (isSymbolByte_of_bullet b hb') m)
    (head_listRow c b m _ hc hb') (separateRow_not_multiple g.p c b m (sp :: name) hc hb' hsep hu hmod))

/-- M3 — a row whose indentation mixes tabs and spaces is rejected, naming the row: whatever the parser
    has learnt so far, whatever bullet symbol follows and whatever the rest of the row contains -/
theorem C02_mixed_indent_rejected (g : GState) (ind rest : Bytes)
    (hind : ∀ x ∈ ind, x = sp ∨ x = tab) (hsp : sp ∈ ind) (htab : tab ∈ ind)
    (hnb : isBlank (ind ++ rest) = false) :
    genStep g (ind ++ rest) = .error (.format (ind ++ rest)) := by
  obtain ⟨c, tl, rfl⟩ := List.exists_cons_of_ne_nil (List.ne_nil_of_mem hsp)
  obtain ⟨d, hd⟩ := presep_sep_some g.p c
  -- whichever blank is latched, the other one occurs in the indentation
  have hall : (c :: (tl ++ indentOf rest)).all (· == d) = false := by
    apply Bool.eq_false_iff.mpr
    intro h
    rw [← List.cons_append, List.all_append, Bool.and_eq_true, List.all_eq_true] at h
    have h1 := h.1 sp hsp
    have h2 := h.1 tab htab
    simp only [beq_iff_eq] at h1 h2
    exact absurd (h1.trans h2.symm) (by decide)
  exact genStep_of_incorrect g _ (parse_bad_indent g.p _ c d _ hnb (indentOf_append _ rest hind) hd hall)

/-- M3 — a row indented with the other blank than the one the document uses (a tab in a space-indented
    document or the reverse) is rejected, naming the row, whatever follows the indentation -/
theorem C02_wrong_indent_char_rejected (g : GState) (c c' : UInt8) (m : Nat) (rest : Bytes)
    (hsep : g.p.sep = some c) (hc' : c' = sp ∨ c' = tab) (hne : c' ≠ c)
    (hnb : isBlank (List.replicate (m + 1) c' ++ rest) = false) :
    genStep g (List.replicate (m + 1) c' ++ rest) = .error (.format (List.replicate (m + 1) c' ++ rest)) := by
  have hio := indentOf_append (List.replicate (m + 1) c') rest (fun y hy => List.eq_of_mem_replicate hy ▸ hc')
  rw [List.replicate_succ, List.cons_append] at hio
  exact genStep_of_incorrect g _ (parse_bad_indent g.p _ c' c _ hnb hio (by simp [presep, hsep])
    (by rw [List.all_cons, beq_false_of_ne hne, Bool.false_and]))

/-- such rows exist: "␠⇥- z" is not blank -/
example : isBlank ([sp, tab] ++ [hy, sp, 0x7A]) = false := by decide

/-- non-vacuity of `C02_no_silent_loss`: the rows "- a", "  - b" carry the item texts a, b -/
example : textsOf {} [[0x2D, 0x20, 0x61], [0x20, 0x20, 0x2D, 0x20, 0x62]] = [[0x61], [0x62]] := by decide

/-- Tie to the source, re-checked on every run: the parser whose accept/reject decisions the C02 theorems are about is
    `Parser.Parse` of markdown/parser.go as translated on this run (with the side effects of the failed attempts inside
    `separateRow`). -/
theorem C02_parser_is_the_source (st : PState) (row : Bytes) :
    Src.Parser.Parse (toSrc st) row = (toSrc (parse st row).1, resSrc (parse st row).2) :=
  Parse_src st row

/-- the parser every generator starts with (`md.NewParser()` returns `&Parser{}`) is the model's initial state -/
example : toSrc {} = { isSharpRoot := false, spaces := 0, sep := [] } := rfl

/-- Tie to the source: `nodeGenerator.handleErr` (node_generator.go, translated on this run) maps the parser's errors
    the way the model's `genStep` does — an empty item text is the generator's own sentinel, a format error
    carries the offending row, a blank row is not an error. -/
theorem C02_error_mapping_is_the_source (g : Src.nodeGenerator) (row : Bytes) :
    Src.nodeGenerator.handleErr g (some (errSrc .emptyText)) row = gerrSrc .emptyText ∧
    Src.nodeGenerator.handleErr g (some (errSrc .incorrect)) row = gerrSrc (.format row) ∧
    Src.nodeGenerator.handleErr g (some (errSrc .blank)) row = none :=
  handleErr_src g row

/-- **C02, "a non-nil error if and only if some line is malformed", as one statement.**
    For EVERY document (any bytes) read from a reader that does not fail: the error the generator returns is
    determined by the first malformed row in the sense of `Spec/Malformed.lean` — the declarative reading of the
    property's five classes (no bullet after the indentation, empty item text, indentation that mixes blanks / is in
    the other blank / is not a whole multiple of the unit, nested more than one level deeper, item before the first
    root): a format error naming that row for the classes noBullet, badIndent and jump, `empty text` for emptyText,
    `nil stack` for orphan; and when no row is malformed, no error at all (unless a row exceeds the scanner's
    token limit, which is the scanner's error). -/
theorem C02_error_iff_malformed (doc : Bytes) :
    (generate { doc := doc }).err =
      match firstMalformed {} (scanLines doc).rows with
      | some x => some (toGErr x)
      | none => if (scanLines doc).tooLong then some .tooLong else none := by
  rw [(generate_doc doc).2, genRows_firstMalformed _ {} {} rel_init]
  cases firstMalformed {} (scanLines doc).rows <;> rfl

/-- the iff itself: generation fails (for a document whose rows fit the scanner) exactly when some row is malformed -/
theorem C02_rejected_iff_malformed (doc : Bytes) (hlong : (scanLines doc).tooLong = false) :
    (generate { doc := doc }).err ≠ none ↔ Malformed (scanLines doc).rows := by
  rw [C02_error_iff_malformed doc, hlong]
  unfold Malformed
  cases firstMalformed {} (scanLines doc).rows <;> simp

/-- a format error names the first malformed row -/
theorem C02_format_error_is_first_malformed (doc : Bytes) (row : Bytes)
    (h : (generate { doc := doc }).err = some (.format row)) :
    ∃ m, firstMalformed {} (scanLines doc).rows = some (row, m) ∧ (m = .noBullet ∨ m = .badIndent ∨ m = .jump) := by
  rw [C02_error_iff_malformed doc] at h
  cases hf : firstMalformed {} (scanLines doc).rows with
  | none =>
    rw [hf] at h
    simp only at h
    split at h <;> simp at h
  | some x =>
    rw [hf] at h
    obtain ⟨r, m⟩ := x
    -- `toGErr` gives a format error, naming the row, for three of the five classes
    cases m with
    | noBullet => cases h; exact ⟨_, rfl, .inl rfl⟩
    | badIndent => cases h; exact ⟨_, rfl, .inr (.inl rfl)⟩
    | jump => cases h; exact ⟨_, rfl, .inr (.inr rfl)⟩
    | emptyText => cases h
    | orphan => cases h

/-- a format error names a row of the input -/
theorem C02_error_names_row (doc : Bytes) (row : Bytes)
    (h : (generate { doc := doc }).err = some (.format row)) : row ∈ (scanLines doc).rows := by
  obtain ⟨m, hm, _⟩ := C02_format_error_is_first_malformed doc row h
  exact firstMalformed_mem _ _ _ _ hm

/-! Non-vacuity: each class occurs, and a well-formed document has no malformed row.
    Rows: "- a" = 2D 20 61, "  - b" = 20 20 2D 20 62, "\t- c" = 09 2D 20 63. -/
example : firstMalformed {} [[0x2D, 0x20, 0x61], [0x20, 0x20, 0x2D, 0x20, 0x62], [0x2D, 0x20, 0x63]] = none := by decide
example : firstMalformed {} [[0x2D, 0x20, 0x61], [0x20, 0x20, 0x62]] = some ([0x20, 0x20, 0x62], .noBullet) := by decide
example : firstMalformed {} [[0x2D, 0x20, 0x61], [0x20, 0x20, 0x2D, 0x20]] = some ([0x20, 0x20, 0x2D, 0x20], .emptyText) := by decide
example : firstMalformed {} [[0x2D, 0x20, 0x61], [0x20, 0x20, 0x2D, 0x20, 0x62], [0x20, 0x20, 0x20, 0x2D, 0x20, 0x63]]
    = some ([0x20, 0x20, 0x20, 0x2D, 0x20, 0x63], .badIndent) := by decide
example : firstMalformed {} [[0x2D, 0x20, 0x61], [0x20, 0x20, 0x2D, 0x20, 0x62], [0x09, 0x2D, 0x20, 0x63]]
    = some ([0x09, 0x2D, 0x20, 0x63], .badIndent) := by decide
example : firstMalformed {} [[0x2D, 0x20, 0x61], [0x20, 0x09, 0x2D, 0x20, 0x62]] = some ([0x20, 0x09, 0x2D, 0x20, 0x62], .badIndent) := by decide
example : firstMalformed {} [[0x2D, 0x20, 0x61], [0x20, 0x20, 0x2D, 0x20, 0x62], [0x20, 0x20, 0x20, 0x20, 0x20, 0x20, 0x2D, 0x20, 0x63]]
    = some ([0x20, 0x20, 0x20, 0x20, 0x20, 0x20, 0x2D, 0x20, 0x63], .jump) := by decide
example : firstMalformed {} [[0x20, 0x20, 0x2D, 0x20, 0x62]] = some ([0x20, 0x20, 0x2D, 0x20, 0x62], .orphan) := by decide

/-- Tie to the source: the builder attaches an item to the nearest open node for which `Node.isDirectlyUnder` holds
    (node.go, translated on this run): hierarchy exactly one more — the test behind "nested more than one level
    deeper than the item before it" (`C02_jump_rejected`). -/
theorem C02_directly_under_is_the_source (h h' : Nat) (t t' : T) :
    Src.Node.isDirectlyUnder (toNode h t) (some (toNode h' t')) = (h == h' + 1) ∧
    Src.Node.isDirectlyUnder (toNode h t) none = false :=
  isDirectlyUnder_src h h' t t'

/-- Tie to the source, pointer code included (heap mode, regenerated on every run): `stack.dfs` of stack.go decides the
    class "more than one level deeper than the item before".  For every heap, every stack of non-nil pointers and every
    new node the translated `dfs` returns false — and the generator then reports the row — exactly when NO open node is
    one level above the new node (`popTo … = none`; the stack is empty afterwards); in every other case the node is
    attached (or an equally named sibling re-opened) and true is returned: no row is dropped silently. -/
theorem C02_dfs_is_the_source (h : SrcH.Heap) (stk : List Go.Ptr) (c : Go.Ptr) (hne : ∀ p ∈ stk, p ≠ 0) :
    SrcH.stack.dfs h stk c =
      (match SrcH.popTo h (h c).hierarchy stk.reverse with
       | none => (h, [], false)
       | some (p, rest) => SrcH.attach h c p rest) :=
  SrcH.dfs_spec h stk c hne

/-- Tie to the source (heap mode, regenerated on every run): over a whole root block the translated builder step rejects
    exactly where the model's zipper does.  With heap and stack representing the zipper `z` (`SrcH.ZR`, all pointers
    different) and a fresh node for the row, `stack.dfs` returns false if and only if the model's `dfs` is undefined —
    the row is more than one level deeper than the deepest open node, or at root level — and otherwise heap and stack
    represent the model's next zipper: no row is attached in the wrong place and none is dropped. -/
theorem C02_builder_step_refines_the_model (h : SrcH.Heap) (hz : List SrcH.HFrame) (z : Zipper) (c : Go.Ptr) (k : Nat)
    (x : Bytes) (hr : SrcH.ZR h none hz z) (ht : SrcH.TopOk hz z) (hnd : (SrcH.zPtrs h hz z).Nodup)
    (hc0 : c ≠ 0) (hcf : c ∉ SrcH.zPtrs h hz z) (hcn : (h c).name = x) (hcl : (h c).hierarchy = (k : Int))
    (hcc : (h c).children = []) :
    (match Gtree.dfs k x z with
     | none => (SrcH.stack.dfs h (hz.map (·.p)).reverse c).2.2 = false
     | some z' => ∃ h' hz', SrcH.stack.dfs h (hz.map (·.p)).reverse c = (h', (hz'.map (·.p)).reverse, true) ∧
         SrcH.ZR h' none hz' z' ∧ SrcH.TopOk hz' z' ∧ (SrcH.zPtrs h' hz' z').Nodup) := by
  have := SrcH.dfs_refines h hz z c k x hr ht hnd hc0 hcf hcn hcl hcc
  cases hm : Gtree.dfs k x z with
  | none => simp only [hm] at this ⊢; exact this
  | some z' =>
    simp only [hm] at this ⊢
    obtain ⟨h', hz', h1, h2, h3, h4, _⟩ := this
    exact ⟨h', hz', h1, h2, h3, h4⟩

/-- **C02 (facts: the row loops).**  The row loops of the four root generators — `generate` and `generateIter` of the
    simple mode, the massive mode's worker, the tinywasm build's `generate` — are, on this run, the loops the model's
    `genStep` / `addItem` was written from (`expectedGenSkeleton`), and they share one row step: node from the row and the
    counter's next value; error → give up; blank row → skip; root → open a block; no open block → `errNilStack`;
    otherwise `stack.dfs` (translated, `C02_dfs_is_the_source`), and a refusal is the format error naming that row. -/
theorem C02_facts_generators_share_one_row_step :
    Facts.genSkeleton = expectedGenSkeleton ∧
    Facts.genSkeleton.length = 4 ∧ Facts.genSkeleton.all (fun e => coreOf e.2 == coreStep) = true :=
  ⟨generator_loops_are_as_expected, generators_share_one_row_step⟩

end Gtree
