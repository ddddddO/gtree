import Gtree.Lemmas.EntryFacts
import Gtree.Lemmas.FSChanges
import Gtree.Lemmas.FSExact
import Gtree.Lemmas.HeapCompose
import Gtree.Lemmas.HeapMkdir
import Gtree.Lemmas.MkInterleave
import Gtree.Lemmas.MkOps
import Gtree.Lemmas.MkdirExact
import Gtree.Lemmas.SourceRefines
import Gtree.Lemmas.TreeFacts
/-
  C06 — mkdir over the finite-map file system model: a root that "exists" (Stat gives anything but does-not-exist)
  fails the call and leaves the file system unchanged; a refused operation is returned as an error; what existed
  keeps its kind; from a fresh start the result is exact.  The last two also for the massive mode, where the roots'
  operations reach the file system interleaved, whatever the schedule.  Then the ties to the source and the
  regenerated facts.  Stated again here so that the file stands alone: `C06_mkdirer_is_the_source` (= C07's),
  `C06_mkdir_path_is_the_model` (= `C07_validates_before_creating_in_the_source`), `C06_is_file_is_the_source` (= C09's).
-/
namespace Gtree

/-- any root already there ⇒ ErrExistPath and an unchanged file system -/
theorem C06_exists_unchanged (fs : FS) (target : Bytes) (exts : List Bytes) (roots : List (List Visit))
    (h : anyRootExists fs target roots = true) :
    mkdirRoots fs target exts roots = (fs, some .exist) := by
  simp [mkdirRoots, h]

/-- creating the nodes of one root changes no entry other than the file paths it creates -/
theorem C06_preserves_existing (target : Bytes) (exts : List Bytes) :
    ∀ (vs : List Visit) (fs : FS) (p : Bytes) (k : Kind), fs.lookup p = some k →
      (∀ v ∈ vs, isFileNode exts v.name v.hasChild = true → p ≠ filepathJoin [target, v.path]) →
      (mkNodes target exts fs vs).1.lookup p = some k := by
  intro vs fs p k h hne
  rw [mkNodes_eq_runOps]
  refine (runOps_grows _ fs).preserves h (fun hc => ?_)
  -- a `Create` among the operations is that of a file node
  obtain ⟨v, hv, hin⟩ := List.mem_flatMap.mp hc
  by_cases hfile : isFileNode exts v.name v.hasChild = true
  · rw [opsOf, if_pos hfile] at hin
    exact hne v hv hfile (by simpa using hin)
  · rw [opsOf, if_neg hfile] at hin
    split at hin <;> simp at hin

/-- a refused operation surfaces: success of the whole call means no operation was refused -/
theorem C06_failure_reported (fs fs' : FS) (target : Bytes) (exts : List Bytes) (vs : List Visit) (e : FErr)
    (h : mkNodes target exts fs vs = (fs', some e)) :
    (mkdirRoots fs target exts [vs]).2 ≠ none := by
  unfold mkdirRoots
  split
  · simp
  · simp [mkdirRoots.go, h]

/-- EXACTNESS of a successful Mkdir. -/
theorem C06_exact (f : Fmt) (exts : List Bytes) (ts : List Bytes) (roots : List T) (fs : FS)
    (hts : GoodList ts) (hg : AllGoodL roots) (hd : DistinctL roots) (hc : fs.Closed)
    (hnf : ∀ i < ts.length, notFile fs (key (ts.take (i + 1))))
    (hnone : anyRootExists fs (key ts) (roots.map (growRoot f)) = false) :
    (mkdirRoots fs (key ts) exts (roots.map (growRoot f))).2 = none ∧
    Exact exts ts roots fs (mkdirRoots fs (key ts) exts (roots.map (growRoot f))).1 :=
  mkdirRoots_exact f (.of_closed f exts hts hg hd hc hnf hnone) hnone

/-- the hypotheses of `C06_exact` are satisfiable: root `a` holding `x` into target `t`, on the empty file system -/
example : ∃ (ts : List Bytes) (roots : List T) (fs : FS), GoodList ts ∧ AllGoodL roots ∧ DistinctL roots ∧ fs.Closed ∧
    (∀ i < ts.length, notFile fs (key (ts.take (i + 1)))) ∧
    anyRootExists fs (key ts) (roots.map (growRoot Fmt.default)) = false ∧ roots ≠ [] := by
  refine ⟨[[116]], [T.mk [97] [T.mk [120] []]], [], ?_, ?_, ?_, ?_, ?_, ?_, by simp⟩
  · exact ⟨by simp, by simpa using goodElem_byte (c := 116) (by decide)⟩
  · simp only [AllGoodL, AllGoodT, and_true]
    exact ⟨goodElem_byte (by decide), goodElem_byte (by decide)⟩
  · simp [DistinctL, DistinctT]
  · intro es _ h; exact absurd rfl h
  · intro i _ n; simp [FS.lookup]
  · decide

/-- Tie to the source: which nodes are regular files is decided by `fileConsiderer.isFile` (file_considerer.go,
    translated on this run), which is the model's `isFileNode`: no children, and the name ends with a configured
    extension. -/
theorem C06_is_file_is_the_source (exts : List Bytes) (h : Nat) (n : Bytes) (ks : List T) :
    Src.fileConsiderer.isFile ⟨exts⟩ (toNode h (.mk n ks)) = isFileNode exts n (!ks.isEmpty) :=
  isFile_src exts h n ks

/-- **"Nothing that existed before has changed" in the massive mode, for every schedule**: whatever sequence of
    `MkdirAll` / `Create` operations reaches the file system — any roots, any interleaving, repetition or cut-off,
    failing operations included — an entry that existed keeps its kind, unless one of the operations is the
    `Create` of exactly that path (which a Mkdir into a target where none of the roots existed never issues for an
    existing entry, `C06_exact`). -/
theorem C06_preserves_existing_massive : ∀ (ops : List FsOp) (fs : FS) (p : Bytes) (k : Kind), fs.lookup p = some k →
    (∀ q, FsOp.create q ∈ ops → p ≠ q) → (applyAll fs ops).lookup p = some k
  := fun ops fs p _ h hne => (applyAll_grows ops fs).preserves h (fun hc => hne p hc rfl)

/-- **EXACTNESS of a successful Mkdir in the massive mode, for every schedule**: under the hypotheses of `C06_exact`,
    after ANY interleaving of the roots' file-system operations every operation has succeeded, every node path
    exists with the right kind, the missing prefixes of the target have become directories, and `lookup` of every
    other path is what it was. -/
theorem C06_exact_massive (f : Fmt) (exts : List Bytes) (ts : List Bytes) (roots : List T) (fs : FS)
    (hts : GoodList ts) (hg : AllGoodL roots) (hd : DistinctL roots) (hc : fs.Closed)
    (hnf : ∀ i < ts.length, notFile fs (key (ts.take (i + 1))))
    (hnone : anyRootExists fs (key ts) (roots.map (growRoot f)) = false)
    (r : List EOp) (hint : Interleave (roots.map (fun t => opsTree exts ts t)) r) :
    ∃ s, runE fs r = (s, none) ∧ Exact exts ts roots fs s :=
  (Fresh.of_closed f exts hts hg hd hc hnf hnone).interleave_exact hint

/-- Fact regenerated from the sources on this run: every Mkdir entry point, under both of its names, builds its configuration with `newConfigWithoutEncode`: an encoding option in the list changes nothing about what is created. -/
theorem C06_facts_entry_points_configuration : Facts.entryConfig = expectedEntryConfig := entryConfig_as_expected

/-- Fact regenerated from the sources on this run: every deprecated alias (`Output`, `Mkdir`, `Verify`, `Walk`,
    `OutputProgrammably`, `MkdirProgrammably`, `VerifyProgrammably`, `WalkProgrammably`, `WalkIterProgrammably`) has, word for
    word, the body of the function that replaces it. -/
theorem C06_facts_aliases_identical : Facts.aliasBodiesEqual.all (fun e => e.2) = true := aliases_identical

/-- Tie to the source, pointer code and operating-system calls included (heap mode of /verif/translate,
    `Generated/SourceHeap.lean`, regenerated on every run): the MKDIRER of simple_tree_mkdirer.go — `mkdir`,
    `isExistRoot`, the recursion `makeDirectoriesAndFiles`, `mkdirAll`, `mkfile` — with `fileConsiderer.isFile`,
    translated statement by statement over an explicit heap and the file-system model (`os.Stat`, `os.MkdirAll`,
    `os.Create` are the model's operations).  For every heap that holds a forest, every file system, target,
    extension list, and every fuel above the forest's size, the translated `mkdir` is the model's `mkdirRoots` on
    what is read from the nodes: nothing is touched and `ErrExistPath` is returned when some root exists already
    (any outcome of Stat other than "does not exist"); otherwise for every node in pre-order a childless node whose
    name ends with an extension gets `MkdirAll(parent)` then `Create`, any other childless node `MkdirAll`, a node
    with children nothing itself; the first refusal ends the run and is returned.  The theorems about `mkNodes` /
    `mkdirRoots` (exactness, confinement, preservation) are therefore theorems about this code. -/
theorem C06_mkdirer_is_the_source (dm : SrcH.defaultMkdirerSimple) (h : SrcH.Heap) (ts : List T) (fs : FS)
    (rs : List Go.Ptr) (fuel : Nat) (hr : SrcH.ReprRoots h ts rs) (hf : sizeList ts ≤ fuel) :
    SrcH.defaultMkdirerSimple.mkdir fuel h fs dm rs =
      some ((mkdirRoots fs dm.targetDir dm.fileConsiderer.extensions (SrcH.rootVisits h ts rs)).1,
            SrcH.mkErrSrc (mkdirRoots fs dm.targetDir dm.fileConsiderer.extensions (SrcH.rootVisits h ts rs)).2) :=
  SrcH.mkdir_heap dm h ts fs rs fuel hr hf

/-- The translated pieces composed as `treeSimple.mkdir` composes them (grow with validation, then mkdir, on the same nodes;
    heap mode, regenerated on every run) ARE the model's `mkdirRootsApi` (real run): for every heap that holds a forest
    (all pointers different), every file system, target, extension list and every fuel above `2·size + 1` — an invalid
    name anywhere in the forest is returned by the grower (so the mkdirer is not reached and nothing is created);
    otherwise the mkdirer performs the model's `mkdirRoots` on the model's `growRoot` visits of every root.  The
    exactness, confinement and dry-run theorems about `mkdirRootsApi` are theorems about this composition; what is
    hand-written in between is the three-line body of `treeSimple.mkdir` (generate, grow, mkdir with early returns). -/
theorem C06_mkdir_path_is_the_model (dg : SrcH.defaultGrowerSimple) (dm : SrcH.defaultMkdirerSimple) (ts : List T) (h : SrcH.Heap) (fs : FS)
    (rs : List Go.Ptr) (fuel : Nat) (hv : dg.enabledValidation = true)
    (hr : SrcH.ReprRoots h ts rs) (hnd : (SrcH.ptrsKids h ts rs).Nodup) (hf : 2 * sizeList ts + 1 ≤ fuel) :
    ∃ h', SrcH.defaultGrowerSimple.grow fuel h dg rs =
        some (h', (validateVisits (ts.map (growRoot (SrcH.fmtOf dg))).flatten).map verrSrc) ∧
      (validateVisits (ts.map (growRoot (SrcH.fmtOf dg))).flatten = none →
        SrcH.defaultMkdirerSimple.mkdir fuel h' fs dm rs =
          some ((mkdirRoots fs dm.targetDir dm.fileConsiderer.extensions (ts.map (growRoot (SrcH.fmtOf dg)))).1,
                SrcH.mkErrSrc (mkdirRoots fs dm.targetDir dm.fileConsiderer.extensions (ts.map (growRoot (SrcH.fmtOf dg)))).2)) :=
  SrcH.grow_then_mkdir dg dm ts h fs rs fuel hv hr hnd hf

/-- **C06 (facts: composition).**  Both Mkdir operations of the simple tree enable validation, grow, and then either
    print (dry run) or call the mkdirer — the composition `C06_mkdir_path_is_the_model` is stated for — and the mkdirer is
    the `defaultMkdirerSimple` built from the configured target directory and file extensions. -/
theorem C06_facts_mkdir_grows_then_creates :
    lookupL "mkdir" Facts.treeSimpleCalls = ["grower.enableValidation", "grower.grow", "spreader.spread", "mkdirer.mkdir"] ∧
    lookupL "mkdirProgrammably" Facts.treeSimpleCalls = ["grower.enableValidation", "grower.grow", "spreader.spread", "mkdirer.mkdir"] ∧
    lookupL "mkdirer" Facts.treeSimpleFields = ["mkdirerFactory", "cfg.targetDir", "cfg.fileExtensions"] ∧
    lookupL "mkdirerFactory" Facts.factoryCtors = ["newMkdirerSimple"] ∧
    lookupL "newMkdirerSimple" Facts.ctorReturns = ["defaultMkdirerSimple"] :=
  -- the numbers are rows of `expectedCalls`, `expectedParts`, `expectedCtors` (Lemmas/TreeFacts.lean); `rfl` checks the row
  ⟨tree_calls 0 rfl, tree_calls 1 rfl, (tree_parts 2 rfl).1, (tree_parts 2 rfl).2, tree_ctors 4 rfl⟩

end Gtree
