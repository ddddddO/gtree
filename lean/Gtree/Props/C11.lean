import Gtree.Model.Pipeline
import Gtree.Generated.Facts
import Gtree.Lemmas.Net
/-
  C11 — massive mode always returns and leaves no goroutine behind: the part of it that is logic, proved for the
  abstract stage of Model/Pipeline.lean and for the whole chain of Model/Net.lean (any number of stages with
  unbuffered hand-overs between them, a closer, an error channel and a waiter of handlePipelineErr per stage, the
  errgroup's derived context and the deferred cancel()), for every number of items and workers, every placement of
  failing items, every cancellation instant and every schedule.  That /repo's sends are the guarded ones (the `true`
  of `SysStep true`) is decided, apart from these theorems, on the facts regenerated from /repo on every run.
  Outside these models: real scheduling, the Go memory model, wall clock; these are observed by the
  harness (deadline, goroutine dump, race detector).
  The second half of `C11_facts_locks` is also `C10_facts_spreader_locked`: each property's file states all it rests on.
-/
namespace Gtree.Pipe

/-- every step (library or environment, guarded or not) decreases `measure`, so every run ends: handing out an item pays 3
    and at most moves a worker from idle (2) to blocked on its error (1); a worker that exits, or gets rid of its error,
    pays its own weight; every other step sets one of the three flags (1 each until set) and changes no count. -/
theorem C11_measure_decreases (g : Bool) (s s' : St) (h : Step g s s') : measure s' < measure s := by
  rcases h with h | h
  · cases h with
    | takeOk ht =>
      simp only [measure, Nat.add_lt_add_iff_right]
      exact Net.mul_pred_lt (Nat.succ_pos _) ht
    | takeFail ht _ hi => simp +arith only [measure, ← Net.mul_pred_add 3 ht, ← Net.mul_pred_add 2 hi]
    | idleExit hi =>
      simp only [measure, Nat.add_lt_add_iff_right, Nat.add_lt_add_iff_left]
      exact Net.mul_pred_lt (Nat.succ_pos _) hi
    | errSend he | errGiveUp _ he =>
      simp only [measure, Nat.add_lt_add_iff_right, Nat.add_lt_add_iff_left]
      exact Nat.sub_one_lt (Nat.ne_of_gt he)
    | srcDone hc | recvCancel hr hc =>
      simp only [measure, *, ↓reduceIte, Bool.false_eq_true, Nat.add_lt_add_iff_right]
      exact Nat.lt_succ_self _
    | recvErr _ hr | recvClosed hr =>
      -- `cancelled` may have been set before
      simp only [measure, hr, ↓reduceIte, Bool.false_eq_true]
      exact Nat.lt_add_right _ (Nat.lt_succ_self _)
  · cases h with
    | cancel hc =>
      simp only [measure, hc, ↓reduceIte, Bool.false_eq_true]
      exact Nat.lt_succ_self _

/-- `Inv` (a call that has returned has cancelled its context: the deferred `cancel()`) holds before the first step … -/
theorem C11_inv_init (todo w : Nat) : Inv (init todo w) := by simp [Inv, init]

/-- … every step keeps it: the caller's three receives set `returned` together with `cancelled` or under it, and no step
    resets `cancelled` … -/
theorem C11_inv_step (g : Bool) (s s' : St) (hi : Inv s) (h : Step g s s') : Inv s' := by
  rcases h with h | h
  · cases h with
    | recvErr | recvClosed => exact fun _ => rfl
    | recvCancel _ hc => exact fun _ => hc
    | _ => exact hi
  · cases h; exact fun _ => rfl

/-- … so it holds in every reachable state -/
theorem C11_inv_reach (g : Bool) (s0 s : St) (h0 : Inv s0) (h : Reach g s0 s) : Inv s := by
  induction h with
  | refl => exact h0
  | step _ hs ih => exact C11_inv_step g _ _ ih hs

/-- no hang, no leak: if no goroutine of the library can move, the call has returned and every worker has exited -/
theorem C11_no_stuck (s : St) (hi : Inv s) (hstuck : ∀ s', ¬ SysStep true s s') :
    s.returned = true ∧ s.idle = 0 ∧ s.err = 0 := by
  have hret : s.returned = true := by
    cases hr : s.returned with
    | true => rfl
    | false =>
      exfalso
      cases hb : s.errbuf with
      | true => exact hstuck _ (.recvErr s hb hr)
      | false =>
        by_cases he : s.err > 0
        · exact hstuck _ (.errSend s he hb)
        · by_cases hidle : s.idle > 0
          · cases hsc : s.srcClosed with
            | true => exact hstuck _ (.idleExit s hidle (Or.inl hsc))
            | false =>
              by_cases ht : s.todo > 0
              · exact hstuck _ (.takeOk s ht hsc hidle)
              · exact hstuck _ (.srcDone s hsc (Or.inl (Nat.eq_zero_of_not_pos ht)))
          · exact hstuck _ (.recvClosed s hr (Nat.eq_zero_of_not_pos hidle) (Nat.eq_zero_of_not_pos he) hb)
  have hc : s.cancelled = true := hi hret
  refine ⟨hret, ?_, ?_⟩
  · by_cases hidle : s.idle > 0
    · exact absurd (.idleExit s hidle (Or.inr hc)) (hstuck _)
    · exact Nat.eq_zero_of_not_pos hidle
  · by_cases he : s.err > 0
    · exact absurd (.errGiveUp s rfl he hc) (hstuck _)
    · exact Nat.eq_zero_of_not_pos he

/-- the same for every reachable state of a run with any number of items and workers -/
theorem C11_no_stuck_reachable (todo w : Nat) (s : St) (hr : Reach true (init todo w) s)
    (hstuck : ∀ s', ¬ SysStep true s s') : s.returned = true ∧ s.idle = 0 ∧ s.err = 0 :=
  C11_no_stuck s (C11_inv_reach true _ s (C11_inv_init todo w) hr) hstuck

/-- cancelled before finishing ⇒ the caller can return (with the context's error) at once -/
theorem C11_cancel_lets_caller_return (g : Bool) (s : St) (hc : s.cancelled = true) (hr : s.returned = false) :
    ∃ s', SysStep g s s' ∧ s'.returned = true := ⟨_, .recvCancel s hr hc, rfl⟩

/-- regression witness (pinned code): with a bare error send, three failing items leave a worker
    blocked for ever although the call has returned -/
theorem C11_bare_send_leaks :
    ∃ s, Reach false (init 3 3) s ∧ s.returned = true ∧ s.err > 0 ∧ ∀ s', ¬ SysStep false s s' := by
  let s1 : St := { init 3 3 with todo := 2, idle := 2, err := 1 }
  let s2 : St := { s1 with todo := 1, idle := 1, err := 2 }
  let s3 : St := { s2 with todo := 0, idle := 0, err := 3 }
  let s4 : St := { s3 with err := 2, done := 1, errbuf := true }
  let s5 : St := { s4 with errbuf := false, returned := true, cancelled := true }
  let s6 : St := { s5 with err := 1, done := 2, errbuf := true }
  let s7 : St := { s6 with srcClosed := true }
  have r1 : Reach false (init 3 3) s1 := .step .refl (Or.inl (.takeFail _ (Nat.succ_pos _) rfl (Nat.succ_pos _)))
  have r2 : Reach false (init 3 3) s2 := .step r1 (Or.inl (.takeFail _ (Nat.succ_pos _) rfl (Nat.succ_pos _)))
  have r3 : Reach false (init 3 3) s3 := .step r2 (Or.inl (.takeFail _ (Nat.succ_pos _) rfl (Nat.succ_pos _)))
  have r4 : Reach false (init 3 3) s4 := .step r3 (Or.inl (.errSend _ (Nat.succ_pos _) rfl))
  have r5 : Reach false (init 3 3) s5 := .step r4 (Or.inl (.recvErr _ rfl rfl))
  have r6 : Reach false (init 3 3) s6 := .step r5 (Or.inl (.errSend _ (Nat.succ_pos _) rfl))
  have r7 : Reach false (init 3 3) s7 := .step r6 (Or.inl (.srcDone _ rfl (Or.inl rfl)))
  refine ⟨s7, r7, rfl, Nat.succ_pos _, ?_⟩
  intro s' h
  -- in `s7` a premise of every step is false
  cases h with
  | takeOk h | takeFail h | srcDone h | idleExit h | errGiveUp h | recvClosed h | recvCancel h => exact absurd h (by decide)
  | errSend _ h | recvErr _ h => exact absurd h (by decide)

/-- no error-channel send outside a select with ctx.Done() (whatever helper it goes through) -/
theorem C11_facts_err_sends_guarded : Gtree.Facts.bareErrSends = [] := by decide
/-- no hand-over or feeder send outside a select with ctx.Done() -/
theorem C11_facts_handover_guarded : Gtree.Facts.bareHandoverSends = [] ∧ Gtree.Facts.bareFeederSends = [] := by decide
/-- Parser.isSharpRoot is written under the parser mutex; the text printer runs under the spreader lock -/
theorem C11_facts_locks : Gtree.Facts.sharpWrittenUnderLock = true ∧ Gtree.Facts.spreadBranchUnderLock = true := by decide

end Gtree.Pipe

namespace Gtree.Net

/-- the whole chain of stages (any number of stages, workers per stage, items, failure placements,
    cancellation instants, schedules): every step decreases a natural-number measure, so every run ends -/
theorem C11_chain_measure_decreases (n n' : Net) (h : Step n n') : measure n' < measure n := by
  -- the weights are those of `localM` (Lemmas/Net.lean): a held item weighs more the further it is from the end of the
  -- chain, so a hand-over pays although it makes a worker idle again; a step that changes one stage is charged to that
  -- stage alone (`measure_stage`), a hand-over to the two it changes (`measure_frame`)
  rcases h with h | h
  · cases h with
    | feed a a' post hs ht hc ho =>
      have hb := localM_outcome ho post.length
      simp only [measure, hs, stagesMeasure_cons, List.length_cons, Nat.add_lt_add_iff_right, ← mul_pred_add _ ht]
      omega
    | srcDone hc ht =>
      simp only [measure, hc, b2n_true, b2n_false, Nat.add_lt_add_iff_right]
      exact Nat.lt_succ_self _
    | handover pre a b b' post hs hsend ho =>
      refine measure_frame n hs rfl ?_
      have hb := localM_outcome ho post.length
      have ha := localM_unsend a hsend 1 a.done (post.length + 1)
      simp only [stagesMeasure_cons, List.length_cons]
      omega
    | sendGiveUp pre a post hs hsend hc =>
      exact measure_stage n hs (Nat.lt_of_lt_of_eq (Nat.lt_add_of_pos_right (Nat.succ_pos _)) (localM_unsend a hsend 0 _ _))
    | idleExitFirst a post hs hi hc => exact measure_stage n (pre := []) hs (localM_idle_exit a hi _ _)
    | idleExit pre p a post hs hi hc =>
      exact measure_frame n hs rfl (Nat.add_lt_add_left (Nat.add_lt_add_right (localM_idle_exit a hi _ _) _) _)
    | closeOut pre a post hs hq hc =>
      refine measure_stage n hs ?_
      simp only [localM, hc, b2n_true, b2n_false, Nat.add_lt_add_iff_right]
      exact Nat.lt_succ_self _
    | errSend pre a post hs he hb =>
      refine measure_stage n hs ?_
      simp +arith only [localM, hb, Bool.false_eq_true, ↓reduceIte, ← mul_pred_add 2 he]
    | errGiveUp pre a post hs he hc => exact measure_stage n hs (localM_err_exit a he _ _)
    | recvErr pre a post hs hb hw =>
      -- the emptied buffer and the waiter pay 1 each; `ecancel` may have been set before
      refine Nat.lt_of_le_of_lt (Nat.add_le_add_right (Nat.add_le_add_left (Nat.zero_le _) _) _)
        (measure_stage n (a' := { a with errbuf := false, waiter := false }) hs ?_)
      simp only [localM, hb, hw, Bool.false_eq_true, ↓reduceIte]
      exact Nat.lt_succ_of_lt (Nat.lt_succ_self _)
    | recvClosed pre a post hs hw hq hb => exact measure_stage n hs (localM_waiter a hw _)
    | waiterCancel pre a post hs hw hc => exact measure_stage n hs (localM_waiter a hw _)
    | ret hr hw =>
      -- `returned` pays 1; the other two flags may have been set before
      simp only [measure, hr, b2n_true, b2n_false, Nat.add_zero]
      exact Nat.lt_succ_of_le (Nat.le_add_right_of_le (Nat.le_add_right _ _))
  · cases h with
    | cancel hc =>
      -- `cancelled` pays 1; `ecancel` may have been set before
      simp only [measure, hc, b2n_true, b2n_false, Nat.add_zero, Nat.add_lt_add_iff_right]
      exact Nat.lt_add_right _ (Nat.lt_succ_self _)

/-- … and where no goroutine of the library can move any more, the call has returned and every worker of
    every stage has exited: no hang, no leak, for every reachable state of every chain -/
theorem C11_chain_no_stuck_reachable (todo : Nat) (workers : List Nat) (hw : ∀ w ∈ workers, w ≥ 1) (n : Net)
    (hr : Reach (init todo workers) n) (hstuck : ∀ n', ¬ SysStep n n') :
    n.returned = true ∧ ∀ a ∈ n.stages, a.quiet :=
  no_stuck n (inv_reach _ n (inv_init todo workers hw) hr) hstuck

/-- cancelled before finishing ⇒ some waiter, or the caller, can move at once -/
theorem C11_chain_cancel_unblocks_caller (n : Net) (hc : n.ecancel = true) (hr : n.returned = false) :
    ∃ n', SysStep n n' := by
  by_cases hall : ∀ a ∈ n.stages, a.waiter = false
  · exact ⟨_, .ret n hr hall⟩
  · obtain ⟨a, ha, hwa⟩ := exists_waiter hall
    obtain ⟨pre, post, hs⟩ := List.append_of_mem ha
    exact ⟨_, .waiterCancel n pre a post hs hwa hc⟩

/-- non-vacuity: splitter (1 worker) → generator (10) → grower (10) → spreader (10), 7 blocks -/
example : Inv (init 7 [1, 10, 10, 10]) := inv_init 7 [1, 10, 10, 10] (by decide)

end Gtree.Net
