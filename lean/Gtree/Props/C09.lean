import Gtree.Lemmas.HeapDry
import Gtree.Lemmas.MkInterleave
import Gtree.Lemmas.MkTree
import Gtree.Lemmas.MkdirExact
import Gtree.Lemmas.SourceConfig
import Gtree.Lemmas.SourceRefines
import Gtree.Lemmas.TreeFacts
import Gtree.Lemmas.VerifyAfter
/-
  C09 — dry run touches nothing and predicts the real run: no dry-run entry point changes the file system; it prints
  the tree text and the two counts, every node counted once, as a file by the predicate the mkdirer uses; it rejects
  a tree for its names iff the real run does; the counts are what a real Mkdir then creates, in the simple mode and
  under any schedule of the massive mode.  Then the ties to the source (the option, the printer) and the
  regenerated facts.  `C09_is_file_is_the_source` is C06's, stated again so that the file stands alone.
-/
namespace Gtree

/-- no dry-run entry point changes the file system: `Output…(WithDryRun)` does not even take one
    (by type), and the Mkdir entry points return the one they were given -/
theorem C09_mkdir_dry_no_fs_effect (f : Fmt) (exts : List Bytes) (target : Bytes) (roots : List T) (fs : FS) :
    (mkdirRootsApi f exts target true roots fs).fs = fs := by
  cases hv : validateVisits (roots.map (growRoot f)).flatten <;> simp [mkdirRootsApi, hv]

/-- the same through the From-Markdown entry point, for every document -/
theorem C09_mkdir_dry_no_fs_effect_md (f : Fmt) (exts : List Bytes) (target : Bytes) (inp : Input) (fs : FS) :
    (mkdirMd f exts target true inp fs).fs = fs := by
  cases hg : (generate inp).err with
  | some e => simp [mkdirMd, hg]
  | none => simp only [mkdirMd, hg]; exact C09_mkdir_dry_no_fs_effect f exts target _ fs

/-- the report of one root: the tree text of plain output, an LF, the two counts, an LF (the model's definition
    unfolded; that the source prints this is `C09_dry_run_printer_is_the_source`) -/
theorem C09_report_shape (f : Fmt) (exts : List Bytes) (r : T) :
    dryRunReport f exts r =
      (textChunks f r).flatten ++ [lf] ++
        summaryBytes (countDirs exts (growRoot f r)) (countFiles exts (growRoot f r)) ++ [lf] := rfl

/-- every node is counted exactly once, as a directory or as a file -/
theorem C09_counts_partition (exts : List Bytes) (vs : List Visit) :
    countDirs exts vs + countFiles exts vs = vs.length := by
  rw [countDirs, countFiles, ← List.countP_eq_length_filter, ← List.countP_eq_length_filter, Nat.add_comm,
    List.length_eq_countP_add_countP (fun v => isFileNode exts v.name v.hasChild)]
  simp

/-- a node is counted as a file iff it is a leaf whose name ends with one of the extensions
    (the same predicate `mkNodes` uses to create a file rather than a directory) -/
theorem C09_file_iff (exts : List Bytes) (name : Bytes) (hasChild : Bool) :
    isFileNode exts name hasChild = true ↔ hasChild = false ∧ ∃ e ∈ exts, hasSuffix name e = true := by
  simp [isFileNode]

/-- dry run rejects a tree because of its names iff the real run does -/
theorem C09_reject_iff (f : Fmt) (exts : List Bytes) (target : Bytes) (roots : List T) (fs : FS) :
    (∃ e, (mkdirRootsApi f exts target true roots fs).err = some (.val e)) ↔
    (∃ e, (mkdirRootsApi f exts target false roots fs).err = some (.val e)) := by
  cases hv : validateVisits (roots.map (growRoot f)).flatten with
  | some e => simp [mkdirRootsApi, hv]
  | none =>
    simp only [mkdirRootsApi, hv, Bool.false_eq_true, if_false, if_true]
    cases hm : mkdirRoots fs target exts (roots.map (growRoot f)) with
    | mk fs' e =>
      cases e <;> simp

/-- the dry-run counts of a root are what a real Mkdir (same extensions) creates: there are exactly that many
    pairwise different node paths flagged file / directory, none of them existed before, and after the
    real run each exists as an empty regular file / as a directory. (Forests of good names with distinct
    sibling names, hypotheses of `C06_exact`.) -/
theorem C09_counts_are_created (f : Fmt) (exts : List Bytes) (ts : List Bytes) (roots : List T) (fs : FS)
    (hts : GoodList ts) (hg : AllGoodL roots) (hd : DistinctL roots) (hc : fs.Closed)
    (hnf : ∀ i < ts.length, notFile fs (key (ts.take (i + 1))))
    (hnone : anyRootExists fs (key ts) (roots.map (growRoot f)) = false) :
    ((pathsOf exts ts roots).map (fun e => key e.1)).Nodup ∧
    ∀ t ∈ roots,
      countFiles exts (growRoot f t) = ((pathsOf exts ts [t]).filter (fun e => e.2)).length ∧
      countDirs exts (growRoot f t) = ((pathsOf exts ts [t]).filter (fun e => !e.2)).length ∧
      ∀ e ∈ pathsOf exts ts [t], fs.lookup (key e.1) = none ∧
        (mkdirRoots fs (key ts) exts (roots.map (growRoot f))).1.lookup (key e.1)
          = some (if e.2 then Kind.file 0 else Kind.dir) := by
  have h := Fresh.of_closed f exts hts hg hd hc hnf hnone
  obtain ⟨_, hex⟩ := mkdirRoots_exact f h hnone
  refine ⟨pathsOf_nodup exts roots ts hts hg hd, ?_⟩
  intro t ht
  obtain ⟨hcf, hcd⟩ := counts_growRoot f exts ts hts t (allGoodT_of_mem roots hg t ht)
  refine ⟨hcf, hcd, ?_⟩
  intro e he
  have hin : e ∈ pathsOf exts ts roots := (mem_pathsOf_iff exts ts roots e).mpr ⟨t, ht, he⟩
  exact ⟨h.absent e hin, by simpa [kindOfFlag] using hex.nodes e hin⟩

/-- Tie to the source: which nodes are regular files is decided by `fileConsiderer.isFile` (file_considerer.go,
    translated on this run), which is the model's `isFileNode`: no children, and the name ends with a configured
    extension. -/
theorem C09_is_file_is_the_source (exts : List Bytes) (h : Nat) (n : Bytes) (ks : List T) :
    Src.fileConsiderer.isFile ⟨exts⟩ (toNode h (.mk n ks)) = isFileNode exts n (!ks.isEmpty) :=
  isFile_src exts h n ks

/-- **The dry-run counts predict the real run in the massive mode too, whatever the schedule**: under the
    hypotheses of `C09_counts_are_created`, after ANY interleaving of the roots' file-system operations every node
    path the counts stand for exists — as an empty regular file if it was counted as a file, as a directory
    otherwise. -/
theorem C09_counts_are_created_massive (f : Fmt) (exts : List Bytes) (ts : List Bytes) (roots : List T) (fs : FS)
    (hts : GoodList ts) (hg : AllGoodL roots) (hd : DistinctL roots) (hc : fs.Closed)
    (hnf : ∀ i < ts.length, notFile fs (key (ts.take (i + 1))))
    (hnone : anyRootExists fs (key ts) (roots.map (growRoot f)) = false)
    (r : List EOp) (hint : Interleave (roots.map (fun t => opsTree exts ts t)) r) :
    ∃ s, runE fs r = (s, none) ∧
      ∀ t ∈ roots, ∀ e ∈ pathsOf exts ts [t], s.lookup (key e.1) = some (if e.2 then Kind.file 0 else Kind.dir) := by
  obtain ⟨s, hrun, hex⟩ := (Fresh.of_closed f exts hts hg hd hc hnf hnone).interleave_exact hint
  exact ⟨s, hrun, fun t ht e he => by
    simpa [kindOfFlag] using hex.nodes e ((mem_pathsOf_iff exts ts roots e).mpr ⟨t, ht, he⟩)⟩

open Gtree.Src in
/-- **The dry-run option, in the source (config.go, translated on this run)**: for EVERY list of public options — nil
    entries, repetitions, any order, any other options before or after — the configuration an operation works with
    has dry run switched on exactly when `WithDryRun()` is in the list; this holds for the configuration of Output
    (`newConfig`) and for that of Mkdir / Verify / Walk (`newConfigWithoutEncode`), whose encoding is the default
    whatever encoding options were given. -/
theorem C09_dry_run_option_in_the_source (os : List Opt) :
    (newConfig (os.map Opt.fn)).dryrun = os.any Opt.isDryRun ∧
    (newConfigWithoutEncode (os.map Opt.fn)).dryrun = os.any Opt.isDryRun ∧
    (newConfigWithoutEncode (os.map Opt.fn)).encode = encodeDefault := by
  rw [newConfigWithoutEncode_src, newConfig_src, dryrun_fold, defaultConfig_fields.1]
  refine ⟨by rw [Bool.false_or], by rw [Bool.false_or], rfl⟩

/-- every option sets its own field only: the configuration is the options applied in order to the default one -/
theorem C09_options_apply_in_order_in_the_source (os : List Opt) :
    Src.newConfig (os.map Opt.fn) = os.foldl Opt.apply defaultConfig :=
  newConfig_src os

/-- Tie to the source, pointer code included (heap mode of /verif/translate, regenerated on every run): THE DRY-RUN PRINTER
    of simple_tree_spreader.go — `colorizeSpreaderSimple.spreadBranch` (the recursion), `colorize` (the file decision and
    the two counters) and `summary` — translated over an explicit heap, the counters as fields of the receiver, colour
    switched off.  For every heap that holds a root whose nodes read as the model's `growRoot` (what the translated grower
    leaves: `C01_grower_is_the_source`), every extension list and counters reset to zero as `spread` resets them: the
    printer returns one line per node in pre-order, counts as files exactly the childless nodes whose name ends with an
    extension and as directories all others (`countFiles`, `countDirs` — the numbers `C09_counts_are_created` relates to
    what a real Mkdir creates), and `"%s\n%s\n"` of its text and its summary is the model's `dryRunReport`. -/
theorem C09_dry_run_printer_is_the_source (cs : SrcH.colorizeSpreaderSimple) (h : SrcH.Heap) (t : T) (r : Go.Ptr)
    (f : Fmt) (fuel : Nat) (hr : SrcH.Repr h t r 0 1) (hf : t.size ≤ fuel)
    (hread : SrcH.readNode h t r 1 = growRoot f t) (h0 : cs.fileCounter = 0) (h0' : cs.dirCounter = 0) :
    ∃ cs' text, SrcH.colorizeSpreaderSimple.spreadBranch fuel h cs r = some (cs', text) ∧
      cs'.fileCounter = (countFiles cs.fileConsiderer.extensions (growRoot f t) : Nat) ∧
      cs'.dirCounter = (countDirs cs.fileConsiderer.extensions (growRoot f t) : Nat) ∧
      text ++ [0x0A] ++ SrcH.colorizeSpreaderSimple.summary h cs' ++ [0x0A] = dryRunReport f cs.fileConsiderer.extensions t := by
  have hrun := SrcH.dry_node h t cs r 0 1 fuel hr hf
  rw [hread] at hrun
  have hfc : (SrcH.bump cs (growRoot f t)).fileCounter = (countFiles cs.fileConsiderer.extensions (growRoot f t) : Nat) := by
    simp [SrcH.bump, h0]
  have hdc : (SrcH.bump cs (growRoot f t)).dirCounter = (countDirs cs.fileConsiderer.extensions (growRoot f t) : Nat) := by
    simp [SrcH.bump, h0']
  refine ⟨_, _, hrun, hfc, hdc, ?_⟩
  rw [SrcH.summary_eq h _ _ _ hdc hfc]
  simp [dryRunReport, lf]

/-- **C09 (facts: which printer a dry run uses).**  The spreader of the simple tree comes from the factory that picks
    `newColorizeSpreaderSimple` (given the configured extensions) when `cfg.dryrun`, which returns the
    `colorizeSpreaderSimple` the dry-run theorems are about; and Mkdir's dry run prints with that spreader after
    validating and growing. -/
theorem C09_facts_dry_run_uses_the_colorize_printer :
    lookupL "spreader" Facts.treeSimpleFields = ["spreaderFactory", "cfg.encode", "cfg.dryrun", "cfg.fileExtensions"] ∧
    lookupL "spreaderFactory" Facts.factoryCtors = ["newColorizeSpreaderSimple", "newSpreaderSimple"] ∧
    lookupL "newColorizeSpreaderSimple" Facts.ctorReturns = ["colorizeSpreaderSimple", "defaultSpreaderSimple"] ∧
    (lookupL "mkdir" Facts.treeSimpleCalls).take 3 = ["grower.enableValidation", "grower.grow", "spreader.spread"] :=
  -- the numbers are rows of `expectedCalls`, `expectedParts`, `expectedCtors` (Lemmas/TreeFacts.lean); `rfl` checks the row
  ⟨(tree_parts 1 rfl).1, (tree_parts 1 rfl).2, tree_ctors 3 rfl, congrArg (List.take 3) (tree_calls 0 rfl)⟩

end Gtree
