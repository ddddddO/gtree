import Gtree.Lemmas.Build
import Gtree.Lemmas.Distinct
import Gtree.Lemmas.FSExact
import Gtree.Lemmas.GenFacts
import Gtree.Lemmas.HeapGrower
import Gtree.Lemmas.HeapMkdir
import Gtree.Lemmas.HeapSpread
import Gtree.Lemmas.HeapWalk
import Gtree.Lemmas.Interleave
import Gtree.Lemmas.MkBridge
import Gtree.Lemmas.MkInterleave
import Gtree.Lemmas.MkPlan
import Gtree.Lemmas.MkdirExact
import Gtree.Lemmas.ParseDoc
import Gtree.Lemmas.RoundTrip
import Gtree.Lemmas.SourceRefines
import Gtree.Lemmas.SpelledRows
import Gtree.Lemmas.SplitParse
import Gtree.Lemmas.SplitSim
import Gtree.Lemmas.Spreader
import Gtree.Lemmas.TreeFacts
import Gtree.Lemmas.VerifyExt
import Gtree.Lemmas.WorkerFacts
/-
  C10 — massive mode is the simple mode up to the order of roots: the parts that are logic.
  The printer with the mutex held around a whole root (`Gtree.Spread`); the splitter followed by generation block by
  block through the shared parser; a worker's block while other workers' rows change the parser in between; mkdir,
  verify and walk for every order of roots and every interleaving of the roots' operations.
  Outside the model: the documents of the known findings about the massive mode (DESIGN §7), real scheduling.
  A check builds and audits the file of its own property only, so what two properties rest on is stated in both files:
  `C10_parser_is_the_source` is `C01_parser_is_the_source` (and that of C02, C12, C15, C17), `C10_facts_spreader_locked` the
  second half of `C11_facts_locks`, the first conjunct of `C10_facts_massive_mode_is_chosen_by_the_option_alone` the third
  of `C03_facts_entry_points_build_a_fresh_tree`.
  `HeapSpread` and `HeapWalk` are imported for `spread_node` and `walk_node`, which the docstring of
  `C10_facts_workers_run_the_translated_functions` rests on without restating them: a change of the translated printer or
  walker that breaks them breaks this file.
-/
namespace Gtree.Spread

/-- C10 (printer): for every schedule of the locked printer, when everything has been printed the
    output is the concatenation of a permutation of the per-root blocks, each block intact -/
theorem C10_blocks_intact (blocks : List Block) (s : St) (h : Reach true (init blocks) s) (hf : Final s) :
    ∃ order : List Block, List.Perm order blocks ∧ s.out = order.flatten := by
  obtain ⟨done, written, hout, hnone, hperm⟩ := inv_reach blocks s h
  obtain ⟨hp, hw, hc⟩ := hf
  rw [hp, hw, curBlock, hc] at hperm
  exact ⟨done, hperm.symm, by rw [hout, hnone hc, List.append_nil]⟩

/-- regression witness: without the mutex two roots of two lines each can come out interleaved -/
theorem C10_unlocked_garbles :
    ∃ s, Reach false (init [[[1], [2]], [[3], [4]]]) s ∧ Final s ∧ s.out = [[1], [3], [2], [4]] := by
  let b1 : Block := [[1], [2]]
  let b2 : Block := [[3], [4]]
  let s0 := init [b1, b2]
  let s1 : St := { s0 with pending := [b2], waiting := [b1] }
  let s2 : St := { s1 with pending := [], waiting := [b2, b1] }
  let s3 : St := { s2 with waiting := [b2, [[2]]], out := [[1]] }
  let s4 : St := { s3 with waiting := [[[4]], [[2]]], out := [[1], [3]] }
  let s5 : St := { s4 with waiting := [[[4]], []], out := [[1], [3], [2]] }
  let s6 : St := { s5 with waiting := [[], []], out := [[1], [3], [2], [4]] }
  let s7 : St := { s6 with waiting := [[]], cur := some [] }
  let s8 : St := { s7 with cur := none }
  let s9 : St := { s8 with waiting := [], cur := some [] }
  let s10 : St := { s9 with cur := none }
  have r1 : Reach false s0 s1 := .step .refl (.take s0 [] b1 [b2] rfl)
  have r2 : Reach false s0 s2 := .step r1 (.take s1 [] b2 [] rfl)
  have r3 : Reach false s0 s3 := .step r2 (.writeUnlocked s2 [b2] [1] [[2]] [] rfl rfl)
  have r4 : Reach false s0 s4 := .step r3 (.writeUnlocked s3 [] [3] [[4]] [[[2]]] rfl rfl)
  have r5 : Reach false s0 s5 := .step r4 (.writeUnlocked s4 [[[4]]] [2] [] [] rfl rfl)
  have r6 : Reach false s0 s6 := .step r5 (.writeUnlocked s5 [] [4] [] [[]] rfl rfl)
  have r7 : Reach false s0 s7 := .step r6 (.acquire s6 [] [] [[]] rfl rfl)
  have r8 : Reach false s0 s8 := .step r7 (.release s7 rfl)
  have r9 : Reach false s0 s9 := .step r8 (.acquire s8 [] [] [] rfl rfl)
  have r10 : Reach false s0 s10 := .step r9 (.release s9 rfl)
  exact ⟨s10, r10, ⟨rfl, rfl, rfl⟩, rfl⟩

/-- the printer does hold the mutex around `spreadBranch` (fact regenerated from /repo on every run) -/
theorem C10_facts_spreader_locked : Gtree.Facts.spreadBranchUnderLock = true := by decide

end Gtree.Spread

namespace Gtree

/-- C10 (shared parser): a list row of a document written in one notation, parsed in ANY parser state
    within the notation's invariant in which the unit has been learnt (whatever rows of other blocks
    other workers have parsed before), yields the same item, and leaves the state within the
    invariant with the unit still learnt. -/
theorem C10_row_independent_of_interleaving (s : Spelling) (p₁ p₂ : PState) (i k : Nat) (n : Bytes)
    (hc : s.c = sp ∨ s.c = tab) (hunit : 1 ≤ s.unit)
    (hb : s.bullet i = hy ∨ s.bullet i = ast ∨ s.bullet i = pls) (hn : n ≠ [])
    (h₁ : PInv s p₁) (h₂ : PInv s p₂) (hu₁ : p₁.spaces = s.unit) (hu₂ : p₂.spaces = s.unit)
    (hsh : p₁.sharp = p₂.sharp) :
    (parse p₁ (listRow s i k n)).2 = (parse p₂ (listRow s i k n)).2 ∧
    PInv s (parse p₁ (listRow s i k n)).1 ∧ ((parse p₁ (listRow s i k n)).1.spaces = s.unit) := by
  have learnt : ∀ p : PState, p.spaces = s.unit → p.spaces ≠ 0 := fun p hu => hu ▸ Nat.ne_of_gt hunit
  obtain ⟨q₁, e₁, inv₁, _, sp₁⟩ :=
    parse_listRow_spelling s p₁ i k n hc hunit hb h₁ (fun h0 => absurd h0 (learnt p₁ hu₁)) hn
  obtain ⟨q₂, e₂, _, _, _⟩ :=
    parse_listRow_spelling s p₂ i k n hc hunit hb h₂ (fun h0 => absurd h0 (learnt p₂ hu₂)) hn
  refine ⟨by rw [e₁, e₂, hsh], by rw [e₁]; exact inv₁, ?_⟩
  rw [e₁]
  exact inv₁.spaces.resolve_left fun h => learnt p₁ hu₁ (sp₁ h).1

/-- C10 (splitter + generator workers): for EVERY sequence of rows – well-formed or not, heading roots, list
    roots, blank rows anywhere – the blocks the splitter cuts (Model/Split.lean, compared with the real
    splitter on every run), generated one after the other with a fresh stack each through the shared
    parser, give the roots the simple generator gives for the whole input, in the same order, or fail with
    the same first error: cutting the input into root blocks loses and invents nothing. -/
theorem C10_split_then_generate (rows : List Bytes) :
    (match genRows {} rows with
     | (g, none) => genBlocksSeq {} (splitBlocks rows) = (g.finishCur, none, g.p)
     | (_, some e) => (genBlocksSeq {} (splitBlocks rows)).2.1 = some e) := by
  have h := sim_rows rows {} {} ⟨⟨{}, rfl, rfl⟩, rfl⟩
  cases hg : genRows {} rows with
  | mk g e =>
    rw [hg] at h
    cases e with
    | none => exact sim_closed g _ h
    | some err => exact h

/-- what begins a block is exactly what the parser makes a root of, or rejects for its empty text -/
theorem C10_block_beginnings_are_roots (p : PState) (l : Bytes) :
    (rootBeginning l (p.sharp || isSharpRow l) = true →
      (∃ text, (parse p l).2 = .ok (1, text)) ∨ (parse p l).2 = .error .emptyText) ∧
    (rootBeginning l (p.sharp || isSharpRow l) = false →
      ∀ h text, (parse p l).2 = .ok (h, text) → 2 ≤ h) :=
  parse_class p l

/-- non-vacuity: "- a", "  - b", "- c" is cut into two blocks -/
example : splitBlocks [[0x2D, 0x20, 0x61], [0x20, 0x20, 0x2D, 0x20, 0x62], [0x2D, 0x20, 0x63]]
    = [[[0x2D, 0x20, 0x61], [0x20, 0x20, 0x2D, 0x20, 0x62]], [[0x2D, 0x20, 0x63]]] := by decide

/-- C10 (row-level interleaving): while a worker parses the rows of its block, the shared parser may be
    changed before every one of its rows by the other workers – arbitrarily, within what parsing rows of
    the notation does to it (`Evolves`: the state stays within the notation, a learnt indent unit is kept,
    heading mode is not left). Whatever those changes are, the worker builds the merged root the simple
    mode builds, and no row of the block is rejected. -/
theorem C10_block_under_row_interleaving (s : Spelling) (t : T) (i : Nat) (p : PState)
    (hv : Nat → PState → PState) (hhv : ∀ j q, q.Within s → Evolves s q (hv j q))
    (hvalid : s.Valid (items 1 [t])) (hp : p.Within s) :
    ∃ g, genRowsHavoc hv 0 { p := p } (spellRows s i (items 1 [t])) = (g, none) ∧
      g.root = some (mergeRoot t) ∧ g.done = [] ∧ g.p.Within s := by
  cases t with
  | mk r ks =>
    -- the model's builder on the block's items opens the root, and closing what it leaves gives the merged root
    obtain ⟨z', hroot, hclose⟩ := addItems_one_root { p := p } r ks
    have hadd : addItems { p := p } (items 1 [T.mk r ks]) = .ok { p := p, done := [], cur := some z' } := by
      simp only [items, List.append_nil]
      exact hroot
    -- the rows that spell those items, with `hv` before each, do what the builder does: the first four hypotheses are the
    -- notation's validity, the others hold of the items of any forest
    obtain ⟨p', hrun, hw⟩ := genRows_spelled_havoc s hvalid.hc hvalid.hunit hvalid.hbullet
      (fun i b hb => (hvalid.hblank i b hb).1) hv hhv (its := items 1 [T.mk r ks]) (i := i) (j := 0) (g := { p := p })
      (hits := fun it hit => ⟨items_ge 1 _ it hit, hvalid.names it hit⟩) (hw := hp)
      (hfio := fun _ => fio_items s [T.mk r ks]) (hsharp := SharpInv.of_items s p _ hp.sharp) (hadd := hadd)
    exact ⟨_, hrun, by simp [GState.root, hclose], rfl, hw⟩

/-- … and every row a worker parses at a legal point of its own block is such a change for the others -/
theorem C10_parse_step_evolves (s : Spelling) (p : PState) (i h : Nat) (n : Bytes) (rest : List (Nat × Bytes))
    (hc : s.c = sp ∨ s.c = tab) (hunit : 1 ≤ s.unit)
    (hb : s.bullet i = hy ∨ s.bullet i = ast ∨ s.bullet i = pls)
    (hh : 1 ≤ h) (hname : NameOk s h n)
    (hw : p.Within s) (hfio : p.spaces = 0 → FIO s ((h, n) :: rest)) (hsharp : SharpInv s p ((h, n) :: rest)) :
    Evolves s p (parse p (rowOf s i h n)).1 := by
  obtain ⟨p', hparse, hinv', _, hsharp'⟩ := parse_itemRow s p i h n rest hc hunit hb hh hname hw.inv hfio hsharp
  have hfr := parse_frame p (rowOf s i h n)
  rw [hparse] at hfr ⊢
  refine ⟨⟨hinv', hsharp'.sharp_off⟩, fun h0 => ?_, fun hps => by rw [hfr.1, hps]; rfl⟩
  -- `spaces` is only ever written when it is 0
  exact Decidable.byContradiction fun hp0 => hp0 ((hfr.2 hp0).symm.trans h0)

/-- C10 (any order of blocks): the root blocks of documents written in one valid notation, handed to the
    generator in ANY order (any permutation, any subset, any repetition – whichever worker gets which block
    when), starting from any state of the shared parser the notation can have produced, each yield the merged
    root the simple mode builds for that root; no block fails. -/
theorem C10_any_block_order (s : Spelling) : ∀ (blocks : List (T × Nat)) (p : PState),
    (∀ b ∈ blocks, s.Valid (items 1 [b.1])) → p.Within s →
    ∃ p', genBlocksSeq p (blocks.map (fun b => spellRows s b.2 (items 1 [b.1])))
            = (blocks.map (fun b => mergeRoot b.1), none, p') ∧ p'.Within s := by
  intro blocks
  induction blocks with
  | nil => exact fun p _ hp => ⟨p, rfl, hp⟩
  | cons b rest ih =>
    intro p hv hp
    -- one block from whatever state the earlier ones left: nothing changes the parser inside a block
    obtain ⟨g, hrun, hroot, _, hp1⟩ :=
      C10_block_under_row_interleaving s b.1 b.2 p (fun _ q => q) (fun _ q => Evolves.refl s q) (hv b List.mem_cons_self) hp
    rw [genRowsHavoc_id] at hrun
    have h1 := genBlock_ok p _ g hrun
    obtain ⟨p2, h2, hp2⟩ := ih g.p (fun x hx => hv x (List.mem_cons_of_mem _ hx)) hp1
    exact ⟨p2, by simp only [List.map_cons, genBlocksSeq, h1, hroot, h2, Option.toList_some, List.singleton_append], hp2⟩

/-- Tie to the source, re-checked on every run: the parser shared by the generator workers in the C10 theorems is
    `Parser.Parse` of markdown/parser.go as translated on this run. -/
theorem C10_parser_is_the_source (st : PState) (row : Bytes) :
    Src.Parser.Parse (toSrc st) row = (toSrc (parse st row).1, resSrc (parse st row).2) :=
  Parse_src st row

/-- the parser every generator starts with (`md.NewParser()` returns `&Parser{}`) is the model's initial state -/
example : toSrc {} = { isSharpRoot := false, spaces := 0, sep := [] } := rfl

/-- Tie to the source: the predicate by which the model's splitter (`splitStep`, `splitBlocks`) begins a new block
    is `isRootBlockBeginning` of input_spliter.go as translated on this run, for every row and either heading mode. -/
theorem C10_block_beginning_is_the_source (l : Bytes) (sharp : Bool) :
    Src.isRootBlockBeginning l sharp = rootBeginning l sharp :=
  isRootBlockBeginning_src l sharp

/-- … and the test by which it enters heading mode is `isSharpRootRow` of input_spliter.go as translated on this run -/
theorem C10_heading_row_is_the_source (l : Bytes) : Src.isSharpRootRow l = isSharpRow l :=
  isSharpRootRow_src l

/-- **C10, "mkdir leaves the same filesystem" — for every order in which the workers take the roots.**
    In the massive mode each root is checked ("does it exist already?") and created on its own, in the order
    the scheduler hands the roots out (`mkdirRootsEach`).  Under the hypotheses of `C06_exact` (good names,
    distinct sibling names, a clean target none of whose prefixes is a file, none of the roots present), for
    EVERY permutation of the forest: every per-root check passes, every root is created, the call succeeds, and
    the file system afterwards is — `lookup` of every path — the one the simple mode leaves.
    (Granularity: whole roots.  The roots one after the other are one schedule of the forest's operations, so this is
    `C10_mkdir_any_interleaving`'s argument for that schedule, with `C10_exists_check_passes_any_moment`'s for the
    checks in between.) -/
theorem C10_mkdir_any_root_order (f : Fmt) (exts : List Bytes) (ts : List Bytes) (roots roots' : List T) (fs : FS)
    (hts : GoodList ts) (hg : AllGoodL roots) (hd : DistinctL roots) (hc : fs.Closed)
    (hnf : ∀ i < ts.length, notFile fs (key (ts.take (i + 1))))
    (hnone : anyRootExists fs (key ts) (roots.map (growRoot f)) = false)
    (hperm : roots'.Perm roots) :
    (mkdirRootsEach (key ts) exts fs (roots'.map (growRoot f))).2 = none ∧
    ∀ p, (mkdirRootsEach (key ts) exts fs (roots'.map (growRoot f))).1.lookup p
      = (mkdirRoots fs (key ts) exts (roots.map (growRoot f))).1.lookup p := by
  have h := Fresh.of_closed f exts hts hg hd hc hnf hnone
  obtain ⟨s', heach, hrun⟩ := mkdirRootsEach_runE f h roots' [] fs (hperm.nodup_iff.mpr hd.nodup)
    (fun t ht => hperm.subset ht) rfl
  -- the roots in the other order, each root's operations together, are a schedule of the same operations
  obtain ⟨s, hrun', hsame⟩ := schedule_mkdirRoots f h hnone (opsKids exts ts roots')
    (fun op => by simp only [mem_opsKids, hperm.mem_iff]) (ordered_opsKids exts ts roots')
  obtain rfl : s = s' := (Prod.mk.inj (hrun'.symm.trans hrun)).1
  rw [heach]
  exact ⟨rfl, hsame⟩

/-- non-vacuity: two roots `a` (holding `x`) and `b`, taken in the other order, into target `t` on the empty file system -/
example : ∃ (ts : List Bytes) (roots roots' : List T) (fs : FS), GoodList ts ∧ AllGoodL roots ∧ DistinctL roots ∧ fs.Closed ∧
    (∀ i < ts.length, notFile fs (key (ts.take (i + 1)))) ∧
    anyRootExists fs (key ts) (roots.map (growRoot Fmt.default)) = false ∧ roots'.Perm roots ∧ roots' ≠ roots := by
  refine ⟨[[116]], [T.mk [97] [T.mk [120] []], T.mk [98] []], [T.mk [98] [], T.mk [97] [T.mk [120] []]], [], ?_, ?_, ?_, ?_, ?_, ?_, ?_, by simp⟩
  · exact ⟨by simp, by simpa using goodElem_byte (c := 116) (by decide)⟩
  · simp only [AllGoodL, AllGoodT, and_true]
    exact ⟨⟨goodElem_byte (by decide), goodElem_byte (by decide)⟩, goodElem_byte (by decide)⟩
  · simp [DistinctL, DistinctT, T.name]
  · intro es _ h; exact absurd rfl h
  · intro i _ n; simp [FS.lookup]
  · decide
  · exact List.Perm.swap _ _ _

/-- **C10, "verify gives the same verdict" — for every order and every subset of workers reporting.**
    The massive verifier judges each root on its own (`verifyOne`: `verifyRoot` + `handleErr`, read-only) and the
    call fails as soon as any worker reports.  For every forest, file system, target and strictness, and every
    order in which the roots are taken (any list with the same members): some worker reports a difference or a
    failure exactly when the simple mode returns an error; and whatever the simple mode reports is what the
    worker of that root reports. -/
theorem C10_verify_verdict_any_order (fs : FS) (target : Bytes) (strict : Bool) (roots roots' : List (List Visit))
    (hsame : ∀ vs, vs ∈ roots' ↔ vs ∈ roots) :
    ((∃ vs ∈ roots', verifyOne fs target strict vs ≠ none) ↔ verifyRoots fs target strict roots ≠ none) ∧
    (∀ e, verifyRoots fs target strict roots = some e → ∃ vs ∈ roots', verifyOne fs target strict vs = some e) := by
  constructor
  · rw [Ne, verifyRoots_eq_findSome, List.findSome?_eq_none_iff]
    simp only [Classical.not_forall, exists_prop, hsame]
  · intro e he
    rw [verifyRoots_eq_findSome] at he
    obtain ⟨vs, hvs, hv⟩ := List.exists_of_findSome?_eq_some he
    exact ⟨vs, (hsame vs).mpr hvs, hv⟩

/-- the worker of one root runs that root's operations in order (the recursion `makeDirectoriesAndFiles`) -/
theorem C10_worker_runs_its_operations (f : Fmt) (exts : List Bytes) (ts : List Bytes) (hts : GoodList ts)
    (t : T) (ht : AllGoodT t) (fs : FS) :
    mkNodes (key ts) exts fs (growRoot f t) = runE fs (opsTree exts ts t) :=
  mkNodes_eq_runE f exts ts hts t ht fs

/-- **C10, "mkdir leaves the same filesystem" — for every schedule of the file-system operations.**
    The workers of the massive mode run the roots' recursions concurrently, so the `MkdirAll` / `Create`
    operations of different roots reach the file system interleaved in an order the scheduler chooses.  Under
    the hypotheses of `C06_exact`, for EVERY interleaving `r` of the roots' operation sequences (each root's
    operations in its own order, `Interleave`): every operation succeeds, and the file system afterwards is —
    `lookup` of every path — the one the simple mode leaves.  (`run_char`: whatever the order, the state after a
    run is a function of the SET of operations executed; the plan's directory keys and file keys are disjoint,
    no directory key is a file beforehand, every `Create` follows the `MkdirAll` of its parent.) -/
theorem C10_mkdir_any_interleaving (f : Fmt) (exts : List Bytes) (ts : List Bytes) (roots : List T) (fs : FS)
    (hts : GoodList ts) (hg : AllGoodL roots) (hd : DistinctL roots) (hc : fs.Closed)
    (hnf : ∀ i < ts.length, notFile fs (key (ts.take (i + 1))))
    (hnone : anyRootExists fs (key ts) (roots.map (growRoot f)) = false)
    (r : List EOp) (hint : Interleave (roots.map (fun t => opsTree exts ts t)) r) :
    ∃ s, runE fs r = (s, none) ∧
      ∀ p, s.lookup p = (mkdirRoots fs (key ts) exts (roots.map (growRoot f))).1.lookup p :=
  schedule_mkdirRoots f (.of_closed f exts hts hg hd hc hnf hnone) hnone r hint.schedule.1 hint.schedule.2

/-- non-vacuity: the operations of the roots `a` (holding the file `x.go`) and `b`, alternating -/
example : Interleave ([T.mk [97] [T.mk [120, 46, 103, 111] []], T.mk [98] []].map (fun t => opsTree [[46, 103, 111]] [[116]] t))
    [EOp.mk [[116], [97]], EOp.mk [[116], [98]], EOp.cr [[116], [97], [120, 46, 103, 111]]] := by
  have h1 : opsTree [[46, 103, 111]] [[116]] (T.mk [97] [T.mk [120, 46, 103, 111] []]) =
      [EOp.mk [[116], [97]], EOp.cr [[116], [97], [120, 46, 103, 111]]] := by decide
  have h2 : opsTree [[46, 103, 111]] [[116]] (T.mk [98] []) = [EOp.mk [[116], [98]]] := by decide
  simp only [List.map_cons, List.map_nil, h1, h2]
  exact Interleave.step [] [[EOp.mk [[116], [98]]]] _ _ _
    (Interleave.step [[EOp.cr [[116], [97], [120, 46, 103, 111]]]] [] [] _ _
      (Interleave.step [] [[]] [] _ _ (Interleave.done _ (by simp))))

/-- **The per-root "exists already?" check passes at any moment of any schedule.**  Whatever the other workers
    have executed so far (`done`: operations of the forest, every `Create` after its parent's `MkdirAll`, none of
    them an operation of root `t`), every one of those operations has succeeded and `isExistRoot` of `t` in the
    state they left says "does not exist" — so the worker of `t` goes on to create it (`pipeline_tree_mkdirer.go`). -/
theorem C10_exists_check_passes_any_moment (f : Fmt) (exts : List Bytes) (ts : List Bytes) (roots : List T) (fs : FS)
    (hts : GoodList ts) (hg : AllGoodL roots) (hd : DistinctL roots) (hc : fs.Closed)
    (hnf : ∀ i < ts.length, notFile fs (key (ts.take (i + 1))))
    (hnone : anyRootExists fs (key ts) (roots.map (growRoot f)) = false)
    (done : List EOp) (hmem : ∀ op ∈ done, op ∈ opsKids exts ts roots) (hord : Ordered done)
    (t : T) (ht : t ∈ roots) (hnot : ∀ op ∈ done, op ∉ opsTree exts ts t) :
    ∃ s, runE fs done = (s, none) ∧ anyRootExists s (key ts) [growRoot f t] = false :=
  exists_check_passes f (.of_closed f exts hts hg hd hc hnf hnone) done hord t ht fun op hop => by
      obtain ⟨t', ht', hin⟩ := (mem_opsKids exts ts roots op).mp (hmem op hop)
      exact ⟨t', ht', fun e => hnot op hop (e ▸ hin), hin⟩

/-- **C10, "walk callbacks see the same nodes with order preserved inside a root" — for every schedule.**  In the
    massive mode each root is walked by a worker, so the callbacks of different roots interleave.  For EVERY
    interleaving `r` of the roots' visit sequences (the sequences the simple mode produces root by root): `r` is a
    permutation of the simple mode's visits — the same nodes, each exactly as often — and whatever precedes a visit
    inside its own root precedes it in `r`. -/
theorem C10_walk_any_interleaving (f : Fmt) (roots : List T) (r : List Visit)
    (hint : Interleave (roots.map (growRoot f)) r) :
    r.Perm (roots.map (growRoot f)).flatten ∧
    ∀ (a : List Visit) (v : Visit) (b : List Visit), r = a ++ v :: b →
      ∃ t ∈ roots, ∃ la lb, growRoot f t = la ++ v :: lb ∧ ∀ x ∈ la, x ∈ a := by
  refine ⟨hint.perm, ?_⟩
  intro a v b e
  obtain ⟨l, hl, la, lb, hsplit, hsub⟩ := hint.before a v b e
  obtain ⟨t, ht, rfl⟩ := List.mem_map.mp hl
  exact ⟨t, ht, la, lb, hsplit, hsub⟩

/-- Tie to the source for the PER-ROOT WORK OF THE MASSIVE MODE (facts regenerated from pipeline_tree_*.go on every
    run, decided here): every stage type of the pipeline embeds the simple mode's type (`defaultGrowerPipeline` embeds
    `*defaultGrowerSimple`, …), its `worker` calls on its receiver exactly the simple mode's per-root methods —
    `assemble`; `isExistRoot` and `makeDirectoriesAndFiles`; `walkNode`; `spreadBranch` between `Lock` and `Unlock`;
    `verifyRoot` and `handleErr` — and the stage type declares no method of those names itself, so the calls are the
    promoted methods: the very functions that are translated in heap mode and proved equal to the model
    (`SrcH.defaultGrowerSimple.assemble`: `assemble_root`; `SrcH.defaultMkdirerSimple.makeDirectoriesAndFiles`:
    `mk_node`; `SrcH.defaultWalkerSimple.walkNode`: `walk_node`; `SrcH.defaultSpreaderSimple.spreadBranch`:
    `spread_node`; the verifier's verdict: §4.4).  What a worker does to one root in the massive mode is therefore
    what the simple mode does to it; the theorems of this file are about how the roots' work interleaves. -/
theorem C10_facts_workers_run_the_translated_functions :
    expectedWorkers.all workerOk = true ∧ Facts.workerCalls.length = expectedWorkers.length ∧
    (∀ (dg : SrcH.defaultGrowerSimple) (t : T) (h : SrcH.Heap) (r : Go.Ptr) (fuel : Nat),
      SrcH.Repr h t r 0 1 → (SrcH.ptrs h t r).Nodup → 2 * t.size + 1 ≤ fuel →
      ∃ h', SrcH.defaultGrowerSimple.assemble fuel h dg r = some (h', SrcH.expErr dg (growRoot (SrcH.fmtOf dg) t))) ∧
    (∀ (dm : SrcH.defaultMkdirerSimple) (h : SrcH.Heap) (t : T) (fs : FS) (p par : Go.Ptr) (lvl fuel : Nat),
      SrcH.Repr h t p par lvl → t.size ≤ fuel →
      SrcH.defaultMkdirerSimple.makeDirectoriesAndFiles fuel h fs dm p =
        some ((mkNodes dm.targetDir dm.fileConsiderer.extensions fs (SrcH.readNode h t p lvl)).1,
              SrcH.osErr (mkNodes dm.targetDir dm.fileConsiderer.extensions fs (SrcH.readNode h t p lvl)).2)) := by
  refine ⟨workers_run_the_simple_functions.1, workers_run_the_simple_functions.2, ?_, ?_⟩
  · intro dg t h r fuel hr hnd hf
    obtain ⟨h', hrun, _⟩ := SrcH.assemble_root dg t h r fuel hr hnd hf
    exact ⟨h', hrun⟩
  · intro dm h t fs p par lvl fuel hr hf
    exact SrcH.mk_node dm h t fs p par lvl fuel hr hf

/-- **C10 (facts: the massive generator).**  The worker of the massive mode's generator stage runs, for the rows of its
    block, the same row step as the simple mode's generators, and its format error names the row it was given. -/
theorem C10_facts_massive_generator_runs_the_same_row_step :
    coreOf (lookupL "rootGeneratorPipeline.worker" Facts.genSkeleton) = coreOf (lookupL "rootGeneratorSimple.generate" Facts.genSkeleton) ∧
    coreOf (lookupL "rootGeneratorPipeline.worker" Facts.genSkeleton) = coreOf (lookupL "rootGeneratorSimple.generateIter" Facts.genSkeleton) ∧
    (lookupL "rootGeneratorPipeline.worker" Facts.genSkeleton).contains "inputFormatError:row: row" = true :=
  -- a loop in which the format error was found is in the table
  have core {k x : String} (h : (lookupL k Facts.genSkeleton).contains x = true) :=
    coreOf_lookup (k := k) fun h0 => by simp [h0] at h
  have ⟨hg, hi, _, hw⟩ := format_error_names_the_row
  ⟨(core hw).trans (core hg).symm, (core hw).trans (core hi).symm, hw⟩

/-- **C10 (facts: which mode runs).**  The massive pipeline is built exactly when the configuration carries the massive
    option, by the same `initializeTree` every entry point goes through; otherwise the simple tree is. -/
theorem C10_facts_massive_mode_is_chosen_by_the_option_alone :
    lookupL "initializeTree" Facts.initTree =
      ["if:cfg.massive", "return", "call:newTreePipeline", "return", "call:newTreeSimple"] ∧
    Facts.entryTree.all (fun e => e.2.all (fun c =>
      ["initializeTree.output", "initializeTree.mkdir", "initializeTree.verify", "initializeTree.walk",
       "initializeTree.outputProgrammably", "initializeTree.mkdirProgrammably", "initializeTree.verifyProgrammably",
       "initializeTree.walkProgrammably", "initializeTree.walkIterProgrammably"].contains c)) = true :=
  -- `+kernel`: a table of strings, evaluated by the kernel alone at a third of what plain `decide` costs
  ⟨entry_points_build_a_fresh_tree.2.2, by decide +kernel⟩

/-- **C10 (facts: the massive operations).**  Every operation of the massive tree is, on this run, the chain of stages the
    network model (`Model/Net.lean`) was written from: splitter and generator for the Markdown forms, the grower stage
    before the stage that consumes its roots, the wait for the stages' errors last. -/
theorem C10_facts_massive_operations_run_the_expected_stages :
    Facts.treePipelineCalls = expectedPipelineCalls ∧
    [("mkdir", "mkdirer.mkdir"), ("mkdirProgrammably", "mkdirer.mkdir"), ("verify", "verifier.verify"),
     ("verifyProgrammably", "verifier.verify"), ("walk", "walker.walk"), ("walkProgrammably", "walker.walk"),
     ("output", "spreader.spread"), ("outputProgrammably", "spreader.spread")].all
      (fun e => calledBefore "grower.grow" e.2 (lookupL e.1 Facts.treePipelineCalls) &&
        (lookupL e.1 Facts.treePipelineCalls).getLast? == some "t.handlePipelineErr") = true :=
  ⟨massive_operations_are_as_expected, massive_operations_validate_then_grow_then_use.2⟩

end Gtree
