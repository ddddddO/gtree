import Gtree.Lemmas.EntryFacts
import Gtree.Lemmas.HeapFormat
import Gtree.Lemmas.Json
import Gtree.Lemmas.SourceConfig
import Gtree.Lemmas.Tree
/-
  C04 — the formatted tree handed to the JSON / YAML / TOML encoder is isomorphic to the tree.
  The JSON encoder (`encoding/json` on the `jsonNode` struct) is modelled in `Gtree.Model.Json` and compared
  byte for byte with the real output; the JSON theorems below are about that model.  The YAML and TOML
  encoders are third-party code: a parameter here, tested by decoding their output.
-/
namespace Gtree

mutual
/-- read a formatted tree back as a tree -/
def FNode.toT : FNode → T
  | .mk v cs => .mk v (FNode.toTs cs)
def FNode.toTs : List FNode → List T
  | [] => []
  | c :: cs => c.toT :: FNode.toTs cs
end

theorem toTs_toFormattedKids : ∀ ks : List T, FNode.toTs (toFormattedKids ks) = ks := by
  intro ks
  induction ks using forest_induct with
  | nil => rfl
  | cons n sub ts hsub hts => simp only [toFormattedKids, toFormatted, FNode.toTs, FNode.toT, hsub, hts]

/-- names, child order and nesting of the formatted tree equal the tree's -/
theorem C04_formatted_iso (t : T) : (toFormatted t).toT = t := by
  cases t with
  | mk n ks => simp only [toFormatted, FNode.toT, toTs_toFormattedKids]

/-- a node has no formatted children iff it has no children (`null` and `[]` are the same to a decoder) -/
theorem C04_children_empty_iff (n : Bytes) (ks : List T) :
    (match toFormatted (.mk n ks) with | .mk _ cs => cs.isEmpty) = ks.isEmpty := by
  cases ks <;> simp [toFormatted, toFormattedKids]

/-- framing: one value per root is handed to the encoder, in input order -/
theorem C04_one_value_per_root (inp : Input) (h : (generate inp).err = none) :
    (outputFormatted inp).1 = (generate inp).roots.map toFormatted ∧ (outputFormatted inp).2 = none := by
  simp [outputFormatted, h]

namespace Json

/-- C04 (JSON, well-formed and isomorphic): reading the printed stream value by value with the JSON reader
    gives one record per root, in input order, and reading the records as trees gives back the forest:
    names (quotes, backslashes, control characters, `<>&`, U+2028/9, any other scalar value), child order
    and nesting. -/
theorem C04_json_roundtrip (ts : List CT) :
    (decodeStream (encodeRoots ts)).bind readAll = some ts := by
  have h := parseLines_encodeRoots ts ((encodeRoots ts).length + 1)
    (Nat.lt_succ_of_le (count_nl_encodeRoots ts ▸ List.count_le_length))
  simp [decodeStream, h, readAll_map_toJ]

/-- every string is read back from its quoted form, whatever follows it -/
theorem C04_json_string_roundtrip (s rest : List Char) : parseStr (escape s ++ '"' :: rest) = some (s, rest) :=
  parseStr_escape s rest

/-- one JSON value per line: the stream has exactly one line feed per root (none inside a value) -/
theorem C04_json_one_line_per_root (ts : List CT) : (encodeRoots ts).count '\n' = ts.length :=
  count_nl_encodeRoots ts

/-- a `null` and an empty `children` list are the same tree to the reader -/
theorem C04_json_null_is_empty (v : List Char) :
    J.toCT (.obj (.cons valueKey (.str v) (.cons childrenKey .null .nil))) =
    J.toCT (.obj (.cons valueKey (.str v) (.cons childrenKey (.arr .nil) .nil))) := by
  simp [J.toCT, JL.toCTs]

/-- the records are `{"value": …, "children": …}` — the keys the struct tags in the sources give them
    (decided on the regenerated facts), the same in the tinywasm variant -/
theorem C04_json_keys : valueKey = "value".toList ∧ childrenKey = "children".toList ∧
    Facts.formattedTags.lookup "wasm_tree_spreader.go:jsonNode" =
      Facts.formattedTags.lookup "simple_tree_spreader.go:jsonNode" := by
  decide +kernel  -- string literals and a regenerated table: plain `decide` costs three times as much to check

/-- non-vacuity: a name made of a quote, a backslash, a line feed, `<`, U+2028 and `é`, with a child -/
example : (decodeStream (encodeRoots [.mk ['"', '\\', '\n', '<', Char.ofNat 0x2028, 'é'] [.mk ['x'] []]])).bind readAll
    = some [.mk ['"', '\\', '\n', '<', Char.ofNat 0x2028, 'é'] [.mk ['x'] []]] := C04_json_roundtrip _

end Json

open Gtree.Src in
/-- **Which encoding is selected, in the source (config.go, translated on this run)**: the LAST of the encoding
    options in the list decides, whatever other options surround it; with none the output is the text tree. -/
theorem C04_encoding_option_in_the_source (os : List Opt) :
    (newConfig (os.map Opt.fn)).encode = lastEncode encodeDefault os := by
  rw [newConfig_src, encode_fold]
  rfl

/-- Fact regenerated from the sources on this run: every Output entry point, under both of its names, builds its
    configuration with `newConfig` — the constructor that keeps the encoding option (`C04_encoding_option_in_the_source`). -/
theorem C04_facts_entry_points_configuration : Facts.entryConfig = expectedEntryConfig := entryConfig_as_expected

/-- Fact regenerated from the sources on this run: every deprecated alias (`Output`, `Mkdir`, `Verify`, `Walk`,
    `OutputProgrammably`, `MkdirProgrammably`, `VerifyProgrammably`, `WalkProgrammably`, `WalkIterProgrammably`) has, word for
    word, the body of the function that replaces it. -/
theorem C04_facts_aliases_identical : Facts.aliasBodiesEqual.all (fun e => e.2) = true := aliases_identical

/-- Tie to the source, pointer code included (heap mode of /verif/translate, regenerated on every run): THE RECORDS HANDED
    TO THE ENCODERS.  `toFormattedNode` of simple_tree_spreader.go with `jsonNode.setChild` / `getChild` (`yamlNode` and
    `tomlNode` have the same methods; that their field tags are `value` / `children` is a regenerated fact), translated over
    two heaps — the nodes, and the records with their allocator.  For every heap that holds a tree, a fresh childless
    record named like the root, and every fuel above the tree's size: the record heap afterwards holds, at that record,
    exactly the model's `toFormatted t` — same names, same order of children, same nesting (each child's record is the
    one just appended: the loop invariant `len(Children) = i`) — and no older record was touched.  `C04_formatted_iso`
    (`(toFormatted t).toT = t`) and the JSON round trip are therefore about what this code hands to the encoder. -/
theorem C04_formatted_tree_is_the_source (h : SrcH.Heap) (t : T) (hj : SrcH.HeapJ) (alj : Nat) (p par fp : Nat)
    (lvl fuel : Nat) (hr : SrcH.Repr h t p par lvl) (hf : t.size ≤ fuel) (hfp : fp < alj)
    (hn : (hj fp).Name = t.name) (hch : (hj fp).Children = []) :
    ∃ hj' alj', SrcH.toFormattedNode fuel h hj alj p fp = some (hj', alj', fp) ∧ alj ≤ alj' ∧
      SrcH.ReprJ hj' 0 alj' (toFormatted t) fp ∧ (∀ q, q < alj → q ≠ fp → hj' q = hj q) :=
  SrcH.toFormattedNode_heap h t hj alj p par fp lvl fuel hr hf hfp hn hch

end Gtree
