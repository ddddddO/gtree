import Gtree.Lemmas.Confined
import Gtree.Lemmas.FSChanges
import Gtree.Lemmas.HeapCompose
import Gtree.Lemmas.HeapGrower
import Gtree.Lemmas.HeapMkdir
import Gtree.Lemmas.MkOps
import Gtree.Lemmas.PathLex
import Gtree.Lemmas.SourceConfig
import Gtree.Lemmas.SourceRefines
import Gtree.Lemmas.TreeFacts
import Gtree.Lemmas.ValidNames
import Gtree.Lemmas.Validate
/-
  C07 — names are validated first, and a Mkdir never leaves the target.
  Validation: a tree containing a name that is not a single valid path element is rejected, and (without the massive
  option) nothing at all is created.  Confinement: with a clean relative target, whatever the forest, the outcome
  and – in the massive mode – the schedule, the only keys that can change are prefixes of the target, the target and
  paths below it.  Then the ties to the source and the regenerated facts.  "First / second sentence" in the docstrings
  are the sentences of property C07 in /verif/properties.jsonl.  Stated again here so that the file stands alone:
  `C07_mkdirer_is_the_source` (= C06's), `C07_validates_before_creating_in_the_source` (= `C06_mkdir_path_is_the_model`).
-/
namespace Gtree

/-- C07 (second sentence): rejected with an error, the file system unchanged, nothing printed -/
theorem C07_invalid_name_rejected (f : Fmt) (exts : List Bytes) (target : Bytes) (dry : Bool) (roots : List T) (fs : FS)
    (h : ∃ v ∈ (roots.map (growRoot f)).flatten, singleElem v.name = false) :
    ∃ e, (mkdirRootsApi f exts target dry roots fs).err = some (.val e) ∧
         (mkdirRootsApi f exts target dry roots fs).fs = fs ∧
         (mkdirRootsApi f exts target dry roots fs).written = [] := by
  cases hv : validateVisits (roots.map (growRoot f)).flatten with
  | some e => exact ⟨e, by simp [mkdirRootsApi, hv]⟩
  | none =>
    obtain ⟨v, hmem, hbad⟩ := h
    rw [validateVisits_none_single _ hv v hmem] at hbad
    cases hbad

/-- the same through the From-Markdown entry point -/
theorem C07_invalid_name_rejected_md (f : Fmt) (exts : List Bytes) (target : Bytes) (dry : Bool) (inp : Input) (fs : FS)
    (hgen : (generate inp).err = none)
    (h : ∃ v ∈ ((generate inp).roots.map (growRoot f)).flatten, singleElem v.name = false) :
    ∃ e, (mkdirMd f exts target dry inp fs).err = some (.val e) ∧ (mkdirMd f exts target dry inp fs).fs = fs := by
  obtain ⟨e, h1, h2, _⟩ := C07_invalid_name_rejected f exts target dry (generate inp).roots fs h
  exact ⟨e, by simp [mkdirMd, hgen, h1], by simp [mkdirMd, hgen, h2]⟩

/-- every error before creation leaves the file system as it was (generation and validation errors) -/
theorem C07_no_effect_on_generation_error (f : Fmt) (exts : List Bytes) (target : Bytes) (dry : Bool) (inp : Input) (fs : FS)
    (e : GErr) (hgen : (generate inp).err = some e) : (mkdirMd f exts target dry inp fs).fs = fs := by
  simp [mkdirMd, hgen]

/-- what a validated name is -/
theorem C07_valid_name_shape (n : Bytes) :
    singleElem n = true ↔ (n ≠ [] ∧ n ≠ [dot] ∧ n ≠ [dot, dot] ∧ slash ∉ n) :=
  singleElem_iff n

/-- C07 (first sentence, lexical part): for a tree whose names are single valid path elements (what
    validation guarantees) and a clean relative target directory, every path handed to the file
    system for a node is the target, one '/', and names from the root joined by '/': there is no
    way up and out of the target. -/
theorem C07_paths_under_target (f : Fmt) (t : T) (h : AllElemT t) (ts : List Bytes) (ht : ts ≠ [])
    (hts : ∀ e ∈ ts, Elem e) :
    ∀ v ∈ growRoot f t, ∃ names : List Bytes, names ≠ [] ∧ (∀ n ∈ names, Elem n) ∧
      v.path = joinSlash names ∧
      filepathJoin [joinSlash ts, v.path] = joinSlash ts ++ slash :: joinSlash names := by
  intro v hv
  obtain ⟨P, hP, hn, hp⟩ := growRoot_shape f t h v hv
  have hel : ∀ n ∈ P ++ [v.name], Elem n := List.forall_mem_append.mpr ⟨hP, List.forall_mem_singleton.mpr hn⟩
  refine ⟨P ++ [v.name], by simp, hel, hp, ?_⟩
  rw [hp, filepathJoin_joinSlash ts _ ht (by simp) hts hel, joinSlash_append ts _ ht (by simp)]

/-- C07 (first sentence), for EVERY forest (any names), every extension list, dry-run or real, every file
    system and every outcome (success, path-exists, OS refusal half-way): with a clean relative target
    directory, the only keys of the file system a From-Root Mkdir can change are non-empty prefixes of
    the target path, the target, and paths below the target. Either a name is invalid and nothing
    changes at all, or every path handed to MkdirAll / Create is the target joined with valid names. -/
theorem C07_confined (f : Fmt) (exts : List Bytes) (ts : List Bytes) (hts : ts ≠ []) (hte : ∀ e ∈ ts, Elem e)
    (dry : Bool) (roots : List T) (fs : FS) (p : Bytes)
    (hp : (mkdirRootsApi f exts (key ts) dry roots fs).fs.lookup p ≠ fs.lookup p) : InTarget ts p :=
  ((mkdirRootsApi_grows f exts ts hts hte dry roots fs).changed hp).elim id id

/-- the same through the From-Markdown entry point, for every document -/
theorem C07_confined_md (f : Fmt) (exts : List Bytes) (ts : List Bytes) (hts : ts ≠ []) (hte : ∀ e ∈ ts, Elem e)
    (dry : Bool) (inp : Input) (fs : FS) (p : Bytes)
    (hp : (mkdirMd f exts (key ts) dry inp fs).fs.lookup p ≠ fs.lookup p) : InTarget ts p := by
  simp only [mkdirMd] at hp
  cases hg : (generate inp).err with
  | some e => simp [hg] at hp
  | none =>
    simp only [hg] at hp
    exact C07_confined f exts ts hts hte dry _ fs p hp

/-- **C07 in the massive mode, for every schedule.**  There each root is validated and created by concurrent
    workers, so the file-system operations of different roots happen in an order the scheduler chooses, a
    root with an invalid name is dropped while the others go on, and a failure stops only its own root.
    Whatever the order — ANY sequence of operations (`MkdirAll` / `Create`) that belong to nodes of roots which
    passed their validation, interleaved in any way, repeated any number of times, cut off at any point, each
    running to its end whatever the others did — with a clean relative target the only keys of the file
    system whose `lookup` can differ afterwards are prefixes of the target, the target and paths below it.
    (The simple mode is the special case `mkNodes_eq_runOps`: the nodes' operations in pre-order.) -/
theorem C07_confined_massive (f : Fmt) (exts : List Bytes) (ts : List Bytes) (hts : ts ≠ []) (hte : ∀ e ∈ ts, Elem e)
    (roots : List T) (ops : List FsOp)
    (hops : ∀ op ∈ ops, ∃ t ∈ roots, validateVisits (growRoot f t) = none ∧ ∃ v ∈ growRoot f t, op ∈ opsOf (key ts) exts v)
    (fs : FS) (p : Bytes) (hp : (applyAll fs ops).lookup p ≠ fs.lookup p) : InTarget ts p := by
  refine ((growsBy_inTarget f exts ts hts hte ops (fun op hop => ?_) (applyAll_grows ops fs)).changed hp).elim id id
  obtain ⟨t, _, hval, hv⟩ := hops op hop
  exact ⟨t, allElemT_of_valid f t hval fun _ hw => hw, hv⟩

/-- the operation view is the simple mode's mkdirer: `mkNodes` runs its nodes' operations in pre-order and
    stops at the first failure -/
theorem C07_simple_is_ops_in_order (target : Bytes) (exts : List Bytes) (vs : List Visit) (fs : FS) :
    mkNodes target exts fs vs = runOps fs (vs.flatMap (opsOf target exts)) :=
  mkNodes_eq_runOps target exts vs fs

/-- Tie to the source: the validation the C07 theorems are about is `Node.validatePath` (node.go, translated on this
    run) — the name must be one path element (not empty, not "." or "..", no "/"), then the node's path must be valid
    for io/fs; the first failure is the error and carries the offending name / path. -/
theorem C07_validation_is_the_source (v : Visit) (hroot : v.level = 1 → v.path = v.name) :
    Src.Node.validatePath (visitNode v) = (validateVisit v).map verrSrc :=
  validatePath_src v hroot

open Gtree.Src in
/-- Tie to the source: the configuration of Mkdir (`newConfigWithoutEncode`, config.go, translated on this run) keeps
    every option except the encoding — in particular dry run (which switches name validation on) and the target
    directory are what the caller asked for, whatever encoding option is also in the list. -/
theorem C07_mkdir_config_in_the_source (xs : List (Option (config → config))) :
    newConfigWithoutEncode xs = { newConfig xs with encode := encodeDefault } :=
  newConfigWithoutEncode_src xs

/-- Tie to the source, pointer code included (heap mode of /verif/translate, regenerated on every run): WHEN and IN
    WHICH ORDER names are validated.  The translated grower (`grow` → `assemble` → `assembleBranch` →
    `Node.validatePath`, over an explicit heap) returns, for every heap that holds a forest and every fuel above
    `2·size + 1`, exactly the model's verdict: with validation enabled the first invalid name or path in pre-order
    over the whole forest (`validateVisits` of the grown visits), otherwise nothing — and every node's path it
    validates is the one the model computes.  Mkdir and Verify enable validation before they touch the file
    system (facts), so "validates first" is a statement about this function. -/
theorem C07_grower_validates_in_the_source (dg : SrcH.defaultGrowerSimple) (ts : List T) (h : SrcH.Heap)
    (rs : List Go.Ptr) (fuel : Nat) (hr : SrcH.ReprRoots h ts rs) (hnd : (SrcH.ptrsKids h ts rs).Nodup)
    (hf : 2 * sizeList ts + 1 ≤ fuel) :
    ∃ h', SrcH.defaultGrowerSimple.grow fuel h dg rs =
      some (h', if dg.enabledValidation then (validateVisits (ts.flatMap (growRoot (SrcH.fmtOf dg)))).map verrSrc
                else none) := by
  obtain ⟨h', hrun, _⟩ := SrcH.grow_forest dg ts h rs fuel hr hnd hf
  exact ⟨h', hrun⟩

/-- Tie to the source, pointer code and operating-system calls included (heap mode of /verif/translate,
    `Generated/SourceHeap.lean`, regenerated on every run): the MKDIRER of simple_tree_mkdirer.go — `mkdir`,
    `isExistRoot`, the recursion `makeDirectoriesAndFiles`, `mkdirAll`, `mkfile` — with `fileConsiderer.isFile`,
    translated statement by statement over an explicit heap and the file-system model (`os.Stat`, `os.MkdirAll`,
    `os.Create` are the model's operations).  For every heap that holds a forest, every file system, target,
    extension list, and every fuel above the forest's size, the translated `mkdir` is the model's `mkdirRoots` on
    what is read from the nodes: nothing is touched and `ErrExistPath` is returned when some root exists already
    (any outcome of Stat other than "does not exist"); otherwise for every node in pre-order a childless node whose
    name ends with an extension gets `MkdirAll(parent)` then `Create`, any other childless node `MkdirAll`, a node
    with children nothing itself; the first refusal ends the run and is returned.  The theorems about `mkNodes` /
    `mkdirRoots` (exactness, confinement, preservation) are therefore theorems about this code. -/
theorem C07_mkdirer_is_the_source (dm : SrcH.defaultMkdirerSimple) (h : SrcH.Heap) (ts : List T) (fs : FS)
    (rs : List Go.Ptr) (fuel : Nat) (hr : SrcH.ReprRoots h ts rs) (hf : sizeList ts ≤ fuel) :
    SrcH.defaultMkdirerSimple.mkdir fuel h fs dm rs =
      some ((mkdirRoots fs dm.targetDir dm.fileConsiderer.extensions (SrcH.rootVisits h ts rs)).1,
            SrcH.mkErrSrc (mkdirRoots fs dm.targetDir dm.fileConsiderer.extensions (SrcH.rootVisits h ts rs)).2) :=
  SrcH.mkdir_heap dm h ts fs rs fuel hr hf

/-- "Validates first" on the translated code (heap mode, regenerated on every run): in the composition grow-then-mkdir of
    `treeSimple.mkdir`, every node of every root has been validated by the translated grower — in pre-order over the
    whole forest — before the translated mkdirer issues its first `MkdirAll` / `Create`: the grower returns the model's
    first validation error, and only when there is none does the mkdirer run, on exactly the visits that were
    validated. -/
theorem C07_validates_before_creating_in_the_source (dg : SrcH.defaultGrowerSimple) (dm : SrcH.defaultMkdirerSimple) (ts : List T) (h : SrcH.Heap) (fs : FS)
    (rs : List Go.Ptr) (fuel : Nat) (hv : dg.enabledValidation = true)
    (hr : SrcH.ReprRoots h ts rs) (hnd : (SrcH.ptrsKids h ts rs).Nodup) (hf : 2 * sizeList ts + 1 ≤ fuel) :
    ∃ h', SrcH.defaultGrowerSimple.grow fuel h dg rs =
        some (h', (validateVisits (ts.map (growRoot (SrcH.fmtOf dg))).flatten).map verrSrc) ∧
      (validateVisits (ts.map (growRoot (SrcH.fmtOf dg))).flatten = none →
        SrcH.defaultMkdirerSimple.mkdir fuel h' fs dm rs =
          some ((mkdirRoots fs dm.targetDir dm.fileConsiderer.extensions (ts.map (growRoot (SrcH.fmtOf dg)))).1,
                SrcH.mkErrSrc (mkdirRoots fs dm.targetDir dm.fileConsiderer.extensions (ts.map (growRoot (SrcH.fmtOf dg)))).2)) :=
  SrcH.grow_then_mkdir dg dm ts h fs rs fuel hv hr hnd hf

/-- **C07 (facts: composition).**  Every operation of the simple tree that creates or compares directories switches
    the grower's validation on before it grows anything, and grows before it does anything else. -/
theorem C07_facts_validation_is_enabled_before_growing :
    ["mkdir", "mkdirProgrammably", "verify", "verifyProgrammably"].all
      (fun op => (lookupL op Facts.treeSimpleCalls).take 2 == ["grower.enableValidation", "grower.grow"]) = true := by
  -- `tree_calls i rfl`: row `i` of `expectedCalls` (Lemmas/TreeFacts.lean); `rfl` checks the row
  simp only [List.all_cons, List.all_nil, tree_calls 0 rfl, tree_calls 1 rfl, tree_calls 2 rfl, tree_calls 3 rfl,
    List.take_succ_cons, List.take_zero, beq_self_eq_true, Bool.and_self]

/-- **C07 (facts: the massive tree).**  The massive tree's Mkdir and Verify operations, from Markdown and from a root,
    enable the grower's validation before the grower stage is started. -/
theorem C07_facts_massive_validation_is_enabled_before_growing :
    ["mkdir", "mkdirProgrammably", "verify", "verifyProgrammably"].all
      (fun op => calledBefore "grower.enableValidation" "grower.grow" (lookupL op Facts.treePipelineCalls)) = true :=
  massive_operations_validate_then_grow_then_use.1

end Gtree
