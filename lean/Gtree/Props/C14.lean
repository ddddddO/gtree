import Gtree.Lemmas.HeapGrowSpread
import Gtree.Lemmas.HeapSpread
import Gtree.Lemmas.Net
import Gtree.Lemmas.Validate
/-
  C14 — reader and writer failures are reported, never swallowed.
  The writer is a sink with a fault oracle (`WFault`: which write fails, how many bytes of it are
  accepted); the reader delivers the document or a prefix followed by an error (`Input.fail`).
  The massive mode: the chain of stages of `Model/Net.lean` (`C14_chain_*`).  Last, the two text printers of the
  source, translated in heap mode, report a failing `Write` as the model's `emit` does.
-/
namespace Gtree

/-- writer: if feeding chunks reports no failure, every byte of every chunk was accepted -/
theorem C14_emit (wf : WFault) (cs : List Bytes) (i : Nat) (h : (emit wf cs i).2 = false) :
    (emit wf cs i).1 = cs.flatten := emit_ok_all wf cs i h

/-- `OutputFromMarkdown` (iterator path, text or dry-run): a nil result means the writer accepted
    exactly the bytes of the fault-free output – for every fault oracle -/
theorem C14_writer_iter (job : Job) (inp : Input) (wf : WFault)
    (h : (outputIter job inp wf).err = none) :
    (outputIter job inp wf).written = ((rootsOf inp).map job.chunks).flatten.flatten :=
  outputIter_writer job inp wf h

/-- From-Root text output: nil ⇒ every line accepted -/
theorem C14_writer_root (f : Fmt) (t : T) (wf : WFault) (h : (outputRootText f t wf).err = none) :
    (outputRootText f t wf).written = (textChunks f t).flatten := by
  have key := emit_ok_all wf (textChunks f t) 0
  unfold outputRootText at h ⊢
  generalize emit wf (textChunks f t) 0 = r at *
  obtain ⟨acc, failed⟩ := r
  cases failed with
  | true => simp at h
  | false => simpa using key rfl

/-- reader: a failing reader never yields a nil generation result -/
theorem C14_reader_reported (inp : Input) (h : inp.fail = true) : (generate inp).err ≠ none := by
  unfold generate generateFrom
  simp only [h]
  -- with `inp.fail` every way out of `generateFrom` carries an error: the generator's, `tooLong`, or `reader`;
  -- whether the generator failed or not, what is left is an `if` between two of them
  cases hg : genRows {} (scanLines inp.doc).rows with
  | mk s e => cases e <;> (simp only; split <;> simp)

/-- … and a generation error is what every entry point returns (here: the iterator output path,
    unless a write failed first) -/
theorem C14_generation_error_surfaces (job : Job) (inp : Input) (wf : WFault)
    (h : (generate inp).err ≠ none) : (outputIter job inp wf).err ≠ none :=
  outputIter_generation_error job inp wf h

namespace Net

/-- C14 in the massive mode (chain model of the pipeline, any number of stages, workers and items, every
    schedule and cancellation instant): a call that returned nil has left nothing behind — every stage has wound
    down, and none has failed.
    (`resultIsNil` is what `handlePipelineErr` of pipeline_tree.go returns, as repaired for defect D17 of DESIGN §7:
    the errgroup's error, else ctx.Err().) -/
theorem C14_chain_nil_is_clean (todo : Nat) (workers : List Nat) (hw : ∀ w ∈ workers, w ≥ 1) (n : Net)
    (hr : Reach (init todo workers) n) (hret : n.returned = true) (hn : n.resultIsNil = true) :
    ∀ a ∈ n.stages, a.quiet ∧ a.failed = false :=
  (ginv_reach todo workers hw n hr).nilClean hret hn

/-- … so if an item failed in ANY stage – a block that does not parse, a name that is not valid, a write or a
    callback that fails – the call, once it has returned, has not returned nil: a waiter received a stage's error,
    or the caller had cancelled and the context's error is returned. -/
theorem C14_chain_failure_surfaces (todo : Nat) (workers : List Nat) (hw : ∀ w ∈ workers, w ≥ 1) (n : Net)
    (hr : Reach (init todo workers) n) (hret : n.returned = true)
    (hf : ∃ a ∈ n.stages, a.failed = true) : n.resultIsNil = false := by
  obtain ⟨a, ha, hfa⟩ := hf
  refine Bool.eq_false_iff.mpr fun hn => ?_
  have := (C14_chain_nil_is_clean todo workers hw n hr hret hn a ha).2
  simp [hfa] at this

end Net

/-- Tie to the source (heap mode, regenerated on every run): WRITE ERRORS IN THE TEXT PRINTER.  The translated
    `defaultSpreaderSimple.spread` (the recursion `spreadBranch` over `fmt.Fprint`) on any heap that holds a forest,
    with the caller's writer as a fault oracle (`failAt = some k`: the k-th `Write` from now fails after accepting
    `short` bytes), returns an error exactly when a `Write` failed — the model's `emit` says so —, has handed the
    writer exactly the bytes `emit` accepts (everything before the failing `Write`, then its short part), and issues
    no `Write` after the failing one.  `C14_emit` and `C14_writer_iter` are therefore about this code. -/
theorem C14_printer_reports_in_the_source (ds : SrcH.defaultSpreaderSimple) (h : SrcH.Heap) (ts : List T) (w : Go.Writer)
    (rs : List Go.Ptr) (fuel : Nat) (hr : SrcH.ReprRoots h ts rs) (hf : sizeList ts ≤ fuel) :
    ∃ w' e, SrcH.defaultSpreaderSimple.spread fuel h w ds rs = some (w', e) ∧
      w'.out = w.out ++ (emit w.fault ((SrcH.readKids h ts rs 1).map lineOf) w.calls).1 ∧
      e.isSome = (emit w.fault ((SrcH.readKids h ts rs 1).map lineOf) w.calls).2 := by
  have := SrcH.writeAll_emit ((SrcH.readKids h ts rs 1).map lineOf) w
  exact ⟨_, _, SrcH.spread_heap ds h ts w rs fuel hr hf, this.1, this.2.1⟩

/-- Tie to the source (heap mode, regenerated on every run): WRITE ERRORS ON THE TEXT PATH OF `OutputFromRoot`.  The
    translated one-pass printer (`growAndSpread` / `assembleAndPrint`: assemble a node's branch, print its row, recurse)
    on any heap that holds a forest (all pointers different), with the caller's writer as a fault oracle, returns an
    error exactly when a `Write` failed, has handed the writer exactly the bytes the model's `emit` accepts of the
    model's `textChunks`, and stops at the failing `Write`: `C14_writer_root` is about this code. -/
theorem C14_root_printer_reports_in_the_source (dgs : SrcH.defaultGrowSpreaderSimple)
    (hv : dgs.defaultGrowerSimple.enabledValidation = false) (ts : List T) (h : SrcH.Heap) (w : Go.Writer)
    (rs : List Go.Ptr) (fuel : Nat) (hr : SrcH.ReprRoots h ts rs) (hnd : (SrcH.ptrsKids h ts rs).Nodup)
    (hf : 2 * sizeList ts + 1 ≤ fuel) :
    ∃ h' w' e, SrcH.defaultGrowSpreaderSimple.growAndSpread fuel h w dgs rs = some (h', w', e) ∧
      w'.out = w.out ++ (emit w.fault (ts.flatMap (textChunks (SrcH.fmtOf dgs.defaultGrowerSimple))) w.calls).1 ∧
      e.isSome = (emit w.fault (ts.flatMap (textChunks (SrcH.fmtOf dgs.defaultGrowerSimple))) w.calls).2 := by
  obtain ⟨h', hrun, _⟩ := SrcH.growAndSpread_forest dgs hv ts h w rs fuel hr hnd hf
  have := SrcH.writeAll_emit (ts.flatMap (textChunks (SrcH.fmtOf dgs.defaultGrowerSimple))) w
  exact ⟨h', _, _, hrun, this.1, this.2.1⟩

end Gtree
